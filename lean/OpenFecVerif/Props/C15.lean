import OpenFecVerif.Proofs.LdpcEnc
import OpenFecVerif.Proofs.Rand
/-!
# C15 — the "last repair symbol is null" claim of LDPC-Staircase is truthful
-/
open Api Rfc5170

/-- executable check of the column-weight condition behind the flag: every symbol but the last belongs
to an even number of equations and the last repair symbol to exactly one (evaluated by the model on every
matrix for which the flag is reported true) -/
def lastNullCheck (n : Nat) (H : List (List Nat)) : Bool :=
  (List.range (n - 1)).all (fun e => Parity.colWeight H e % 2 == 0) && Parity.colWeight H (n - 1) % 2 == 1

theorem lastNullCheck_iff {n : Nat} {H : List (List Nat)} :
    lastNullCheck n H = true ↔ (∀ e, e < n - 1 → Parity.colWeight H e % 2 = 0) ∧ Parity.colWeight H (n - 1) % 2 = 1 := by
  simp only [lastNullCheck, Bool.and_eq_true, List.all_eq_true, List.mem_range, beq_iff_eq]

variable {V : Type} [AddCommGroup V]

/-- the flag as computed by the session model: no extra entries and N1 even — the same function of the
matrix construction for encoder and decoder sessions -/
theorem C15_flag_def (extra : Bool) (N1 : Nat) :
    ((!extra && N1 % 2 == 0) = true) ↔ (extra = false ∧ N1 % 2 = 0) := by
  cases extra <;> simp

/-- the sum of all parity-check equations counts every symbol as often as it occurs: Σ_rows Σ_{e∈row} cw e = Σ_e weight(e)·cw e -/
theorem C15_sum_of_equations (n : ℕ) (H : List (List ℕ)) (hnd : ∀ row ∈ H, row.Nodup)
    (hlt : ∀ row ∈ H, ∀ e ∈ row, e < n) (cw : ℕ → V) :
    (H.map fun row => (row.map cw).sum).sum = ∑ e ∈ Finset.range n, Parity.colWeight H e • cw e :=
  Parity.sum_rows_eq_sum_cols n H hnd hlt cw

/-- **Truthfulness.** For a staircase system whose column weights pass `lastNullCheck`, the encoder's last
repair symbol is zero for EVERY source block (symbols in any elementary abelian 2-group). -/
theorem C15_truthful (h2 : ∀ v : V, v + v = 0) (k : ℕ) (H : List (List ℕ)) (hr : 0 < H.length)
    (hst : LdpcEnc.Stair k H) (hlt : ∀ row ∈ H, ∀ e ∈ row, e < k + H.length)
    (hchk : lastNullCheck (k + H.length) H = true) (src : List V) (hs : src.length = k) :
    (ldpcEncode (grpOps V) k H src).getD (k + H.length - 1) 0 = 0 := by
  obtain ⟨heven, hodd⟩ := lastNullCheck_iff.mp hchk
  exact Parity.last_symbol_zero h2 (k + H.length) (by omega) H ((List.forall_getD_nil_iff H).mp hst.nodup) hlt
    (fun e => (ldpcEncode (grpOps V) k H src).getD e 0) ((List.forall_getD_nil_iff H).mp (LdpcEnc.parity h2 k H hst src hs)) heven hodd

/-- encoder and decoder sessions configured alike report the same flag (the session model's answer does not
depend on the role) -/
theorem C15_same_for_both_roles {σ : Type} (IO : SymIO σ) (w : World σ) (sid : Nat) (s s' : Session σ)
    (h1 : w.ses.get sid = some s) (hc : s.codec = 3) (hp : s'.params = s.params) (he : s'.extra = s.extra) (hc' : s'.codec = 3)
    (ht : s'.twoD = s.twoD) :
    (step IO w (.ctrl sid "lastnull")).2 = (step IO { w with ses := w.ses.set sid (some s') } (.ctrl sid "lastnull")).2 := by
  cases htd : s.twoD <;> cases hpar : s.params <;> simp [step, h1, hc, hc', hp, he, ht, htd, hpar]

-- non-vacuity: k = 2, n = 6, N1 = 4: every source symbol is in all four equations; the check passes
example : lastNullCheck 6 [[0, 1, 2], [0, 1, 2, 3], [0, 1, 3, 4], [0, 1, 4, 5]] = true := by decide

/-- **The flag is truthful for every configuration.**  For every matrix the RFC 5170 construction returns without extra entries and
with N1 even — i.e. whenever `OF_CRTL_LDPC_STAIRCASE_IS_LAST_SYMBOL_NULL` is reported true — the column-weight condition holds: every
source column has N1 (even) entries, every repair column but the last has two, the last has one. -/
theorem C15_lastNullCheck_every_configuration (rn : ℚ → ℚ) (hrn : RN53 rn) (g k r N1 seed : Nat) (hk : 1 ≤ k) (hr : 1 ≤ r)
    (hk63 : k < 2 ^ 63) (hr63 : r < 2 ^ 63) (ht63 : N1 * k < 2 ^ 63) (h1 : 1 ≤ seed) (h2 : seed ≤ 2147483646) (g' : Nat) (M : Matrix)
    (h : create rn g k r N1 seed = (g', some M)) (hex : M.extra = false) (hN1 : N1 % 2 = 0) :
    lastNullCheck (k + r) M.rows = true := by
  obtain ⟨w1, w2⟩ := (RfcWF.create_built (.of_RN53 hrn) hk hr hk63 hr63 ht63 ⟨h1, h2⟩ h).weights hex
  refine lastNullCheck_iff.mpr ⟨fun e he => ?_, ?_⟩
  · by_cases hek : e < k
    · rw [w1 e hek, hN1]
    · obtain ⟨t, rfl⟩ := Nat.exists_eq_add_of_le (Nat.le_of_not_lt hek)
      rw [w2 t (by omega), if_pos (by omega)]
  · rw [Nat.add_sub_assoc hr, w2 (r - 1) (Nat.sub_lt hr Nat.one_pos), if_neg (by omega)]

/-- … hence, for every accepted configuration for which the flag is true, the encoder's last repair symbol is zero for every source block
(no per-matrix check left): `C15_truthful` with its hypotheses discharged by the structure theorems of the construction. -/
theorem C15_truthful_every_configuration {V : Type} [AddCommGroup V] (hV : ∀ v : V, v + v = 0) (rn : ℚ → ℚ) (hrn : RN53 rn)
    (g k r N1 seed : Nat) (hk : 1 ≤ k) (hr : 1 ≤ r) (hk63 : k < 2 ^ 63) (hr63 : r < 2 ^ 63) (ht63 : N1 * k < 2 ^ 63)
    (h1 : 1 ≤ seed) (h2 : seed ≤ 2147483646) (g' : Nat) (M : Matrix) (h : create rn g k r N1 seed = (g', some M))
    (hex : M.extra = false) (hN1 : N1 % 2 = 0) (src : List V) (hs : src.length = k) :
    (ldpcEncode (grpOps V) k M.rows src).getD (k + r - 1) 0 = 0 := by
  obtain ⟨rfl, q2, q3⟩ := (RfcWF.create_built (.of_RN53 hrn) hk hr hk63 hr63 ht63 ⟨h1, h2⟩ h).wf
  exact C15_truthful hV k M.rows hr q3 (fun row hrow => (q2 row hrow).2.1)
    (C15_lastNullCheck_every_configuration rn hrn g k _ N1 seed hk hr hk63 hr63 ht63 h1 h2 g' M h hex hN1) src hs
