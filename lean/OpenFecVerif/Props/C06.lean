import OpenFecVerif.Props.C02
import OpenFecVerif.Proofs.Session
/-!
# C06 — encoders emit the canonical codeword of the configured code
-/
open Finset

/-- evaluation points: 0, 1, x, x², … (x the class of the indeterminate, i.e. the element 2) -/
theorem C06_points (F : RS.Fld) (i : ℕ) : RS.pt F 0 = 0 ∧ RS.pt F (i + 1) = F.xpow i :=
  ⟨rfl, if_neg i.succ_ne_zero⟩

/-- GF(2^8) (codec 1 and codec 2 with m = 8 share this model, hence are byte-compatible): the generator
entry (r, i) is the i-th Lagrange basis polynomial on the points of the k source symbols evaluated at the
point of symbol r — i.e. row r of (Vandermonde rows) × (inverse of the top k×k Vandermonde matrix) — and the
codeword is the evaluation of the unique polynomial of degree < k through the source symbols. -/
theorem C06_rs_generator_gf8 (k r i : ℕ) (src : ℕ → GF8.GF256) :
    GF8.model.φ (RS.G RS.fld8 k r i) = (Lagrange.basis (range k) GF8.model.v i).eval (GF8.model.v r) ∧
    GF8.model.cwModel k src r = (Lagrange.interpolate (range k) GF8.model.v src).eval (GF8.model.v r) :=
  ⟨GF8.model.φ_G k r i, GF8.model.cwModel_eq k src r⟩

theorem C06_rs_generator_gf4 (k r i : ℕ) (src : ℕ → GF4.GF16) :
    GF4.model.φ (RS.G RS.fld4 k r i) = (Lagrange.basis (range k) GF4.model.v i).eval (GF4.model.v r) ∧
    GF4.model.cwModel k src r = (Lagrange.interpolate (range k) GF4.model.v src).eval (GF4.model.v r) :=
  ⟨GF4.model.φ_G k r i, GF4.model.cwModel_eq k src r⟩

/-- the generator is systematic: identity on the first k rows -/
theorem C06_rs_systematic_rows (k n : ℕ) (hk : k ≤ n) (hn : n ≤ 255) (src : ℕ → GF8.GF256) (i : ℕ) (hi : i < k) :
    GF8.model.cwModel k src i = src i := C02_systematic_gf8 k n hk hn src i hi

/-- both Reed-Solomon codecs over GF(2^8) use the same field model, the GF(2^m) codec with m = 4 the other one -/
theorem C06_rs_compat : Api.fldOf 1 0 = Api.fldOf 2 8 ∧ Api.fldOf 2 4 = RS.fld4x :=
  ⟨rfl, rfl⟩

variable {σ : Type}

/-- encoding never modifies the source entries of the application's table (session model) -/
theorem C06_src_untouched_model (IO : Api.SymIO σ) (s : Api.Session σ) (p : Api.Params) (cw : List σ) (esi : ℕ)
    (own : Bool) (i : ℕ) (hi : i < p.k) (hinit : (s.enc.get 0).isSome = true) :
    (Api.buildStep IO s p cw esi own).1.enc.get i = s.enc.get i :=
  Api.buildStep_enc_get IO s p cw esi own i (by omega) hinit

/-- a NULL output slot is recorded as library-allocated, an application slot as the application's -/
theorem C06_null_slot_model (IO : Api.SymIO σ) (s : Api.Session σ) (p : Api.Params) (cw : List σ) (esi : ℕ)
    (own : Bool) (h1 : p.k ≤ esi) (h2 : esi < p.n) :
    (Api.buildStep IO s p cw esi own).1.encLib.get esi = !own := by
  unfold Api.buildStep
  simp only [h1, h2, decide_true, Bool.and_self, if_true, apply_ite Prod.fst, apply_ite Api.Session.encLib, TMap.get_set_same, ite_self]

/-- **The Reed-Solomon encoder function of the model is the generator-matrix product** (one field position; both codecs over GF(2^8)
and the GF(2^4) codec, with the operations the executable model uses) -/
theorem C06_rs_encode_function (k : ℕ) (r : ℕ) :
    (∀ src : List GF8.GF256, src.length = k →
      RS.encode RS.fld8x GF8.modelx.fieldOps k src r = GF8.modelx.cwModel k (fun i => src.getD i 0) r) ∧
    (∀ src : List GF4.GF16, src.length = k →
      RS.encode RS.fld4x GF4.modelx.fieldOps k src r = GF4.modelx.cwModel k (fun i => src.getD i 0) r) :=
  ⟨fun src hs => GF8.modelx.encode_eq k src hs r, fun src hs => GF4.modelx.encode_eq k src hs r⟩
