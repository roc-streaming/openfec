import OpenFecVerif.Proofs.GaussSound
/-!
# C03 — LDPC-Staircase `of_finish_decoding` is ML-complete

Solver model `Gauss.solve` (forward elimination with first-pivot search and row exchange, backward
substitution), transliterated from of_ml_tool.c and run by `ofmodel` against the real library.
Part 1: success of the solver is a function of the coefficient matrix alone — the
symbol values never influence whether decoding succeeds — and equals the rank test
`Gauss.fullColRank` that the correspondence check uses as specification-side oracle.
-/
open Gauss in
/-- **Data-obliviousness of ML decoding.**  Whether the solver succeeds depends only on the coefficient matrix:
it succeeds exactly when the rank test on the bare matrix does, whatever the symbol values are. -/
theorem C03_success_is_rank_test {σ : Type} (O : Ops σ) (q : Nat) (rows : List (Gauss.Row σ)) :
    (Gauss.solve O q rows).isSome = Gauss.fullColRank q (rows.map (·.1)) := by
  have hm : mapRhs (fun _ => ()) rows = (rows.map (·.1)).map (fun r => (r, ())) := by
    simp [mapRhs, List.map_map, Function.comp, Prod.map]
  rw [fullColRank, isSome_solve_map (O' := ⟨(), fun _ _ => (), fun _ _ => ()⟩) (f := fun _ => ()) (fun _ _ => rfl), hm, solve,
    Option.isSome_map]

/-- … hence two sessions that received the same set of symbols (whatever the order, API or payload) succeed or fail together -/
theorem C03_outcome_payload_free {σ τ : Type} (O : Ops σ) (O' : Ops τ) (q : Nat) (rows : List (Gauss.Row σ)) (rows' : List (Gauss.Row τ))
    (h : rows.map (·.1) = rows'.map (·.1)) :
    (Gauss.solve O q rows).isSome = (Gauss.solve O' q rows').isSome := by
  rw [C03_success_is_rank_test, C03_success_is_rank_test, h]

/-! Part 2: the solver is sound and ML-complete (Proofs/GaussSound.lean).  `Gauss.Sat O x r` : the assignment `x` (one symbol
per unknown) satisfies equation `r`; `Gauss.InKernel rows v` : the 0/1 vector `v` is in the kernel of the coefficient matrix;
`Gauss.Lawful O` : symbol addition is associative, commutative, with neutral element, every symbol its own opposite. -/

open Gauss in
/-- **Soundness.** Whatever the solver returns is the only candidate: every assignment satisfying all the equations equals it.
In decoding the transmitted block satisfies every equation, so a returned symbol can only be the transmitted one. -/
theorem C03_solve_unique {σ : Type} {O : Ops σ} (hO : Lawful O) (q : Nat) (rows : List (Gauss.Row σ)) (hw : Wide q rows)
    (hlen : q ≤ rows.length) (xs : List σ) (h : solve O q rows = some xs) :
    xs.length = q ∧ ∀ x : List σ, x.length = q → (∀ r ∈ rows, Sat O x r) → x = xs :=
  solve_eq_some hO q rows hw xs h

open Gauss in
theorem C03_solve_sound {σ : Type} {O : Ops σ} (hO : Lawful O) (q : Nat) (rows : List (Gauss.Row σ)) (hw : Wide q rows)
    (hlen : q ≤ rows.length) (xs : List σ) (h : solve O q rows = some xs) (x : List σ) (hx : x.length = q)
    (hsat : ∀ r ∈ rows, Sat O x r) : xs = x ∧ ∀ r ∈ rows, Sat O xs r :=
  solve_sound hO q rows hw hlen xs h x hx hsat

open Gauss in
/-- **ML-completeness.** The solver succeeds exactly when the coefficient matrix has full column rank, i.e. when the only 0/1
vector in its kernel is zero — exactly when the unknowns are uniquely determined by the equations.  Both directions, for every
p × q system with p ≥ q and any right-hand sides. -/
theorem C03_solve_iff_full_rank {σ : Type} (O : Ops σ) (q : Nat) (rows : List (Gauss.Row σ)) (hw : Wide q rows) (hlen : q ≤ rows.length) :
    (solve O q rows).isSome = true ↔ ∀ v : List Bool, v.length = q → InKernel rows v → v = List.replicate q false :=
  solve_isSome_iff O q rows hw

-- non-vacuity: the rank test accepts a 3 × 2 coefficient matrix of full column rank and refuses a rank-deficient one
example : Gauss.fullColRank 2 [[true, true], [true, true], [false, true]] = true ∧ Gauss.fullColRank 2 [[true, true], [true, true], [false, false]] = false := by
  decide
