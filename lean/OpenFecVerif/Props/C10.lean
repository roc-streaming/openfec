import OpenFecVerif.Props.C11
/-!
# C10 — status codes and queries tell the truth about decoding progress (session model)

Statements about `Api.rsFinish`, `Api.rsRecv`, `Api.ldpcFinish`, `Api.ldpcRecv`: the executable session
model that the correspondence check runs against the real library after every call.
-/
open Api

variable {σ : Type}

/-- Reed-Solomon: `of_finish_decoding` returns OK exactly when decoding is complete afterwards … -/
theorem C10_rs_finish_ok_iff (IO : SymIO σ) (s : Session σ) (p : Params) :
    (rsFinish IO s p).1 = Status.ok ↔ (rsFinish IO s p).2.1.finished = true := by
  rw [rsFinish_status]
  cases (rsFinish IO s p).2.1.finished <;> simp

/-- … and FAILURE exactly when it is not -/
theorem C10_rs_finish_failure_iff (IO : SymIO σ) (s : Session σ) (p : Params) :
    (rsFinish IO s p).1 = Status.failure ↔ (rsFinish IO s p).2.1.finished = false := by
  rw [rsFinish_status]
  cases (rsFinish IO s p).2.1.finished <;> simp

/-- completion never reverts: a finished Reed-Solomon session stays finished under every decoder call -/
theorem C10_rs_monotone (IO : SymIO σ) (s : Session σ) (p : Params) (esi j : Nat) (v : σ) (h : s.finished = true) :
    (rsRecv IO s p esi v j).2.1.finished = true ∧ (rsFinish IO s p).2.1.finished = true := by
  unfold rsRecv rsFinish
  simp [h]

/-- submissions return OK -/
theorem C10_rs_submit_ok (IO : SymIO σ) (s : Session σ) (p : Params) (esi j : Nat) (v : σ) :
    (rsRecv IO s p esi v j).1 = Status.ok := by
  unfold rsRecv
  -- with the projection pushed to the leaves every leaf is OK but the status of `rsFinish`, which is reached only with k symbols
  -- registered
  simp only [apply_ite Prod.fst, ite_eq_left_iff, ite_eq_right_iff]
  exact fun hf _ _ h => rsFinish_ok_of_ge IO _ p (Bool.eq_false_iff.mpr hf) h

/-- LDPC: `of_finish_decoding` on an already complete block returns OK and keeps it complete -/
theorem C10_ldpc_finish_complete_ok (IO : SymIO σ) (s : Session σ) (p : Params) (it : IT.St σ)
    (h : s.it = some it) (hc : it.complete = true) :
    (ldpcFinish IO s p).1 = Status.ok ∧ (ldpcFinish IO s p).2.1.it = some it := by
  unfold ldpcFinish
  simp [h, hc]

/-- LDPC submissions return OK on a configured session -/
theorem C10_ldpc_submit_ok (IO : SymIO σ) (s : Session σ) (p : Params) (it : IT.St σ) (esi j : Nat) (v : σ)
    (h : s.it = some it) : (ldpcRecv IO s p esi v j).1 = Status.ok := by
  rw [ldpcRecv_eq IO s p esi j v h]

/-- pointer identity (Reed-Solomon): a symbol submitted while its slot is empty and decoding is not finished is
stored with the application's own pointer (tag `app j`), also when it is the k-th and the call goes on to decode -/
theorem rsRecv_pointer_identity (IO : SymIO σ) (s : Session σ) (p : Params) (esi j : Nat) (v : σ)
    (hf : s.finished = false) (he : s.avail.get esi = none) :
    ((rsRecv IO s p esi v j).2.1.avail.get esi).map (·.prov) = some (Prov.app j) := by
  unfold rsRecv
  -- the slot is written before the counters are looked at and `rsFinish` leaves it alone: every leaf holds it
  simp only [hf, he, Option.isSome_none, Bool.false_eq_true, if_false, apply_ite Prod.snd, apply_ite Prod.fst,
    apply_ite Session.avail, apply_ite (TMap.get · esi), rsFinish_avail_of_isSome, ite_self, TMap.get_set_same, Option.map_some,
    Option.isSome_some]

/-- … for a submission that leaves fewer than k symbols -/
theorem C10_rs_pointer_identity (IO : SymIO σ) (s : Session σ) (p : Params) (esi j : Nat) (v : σ)
    (hf : s.finished = false) (he : s.avail.get esi = none) (hlt : s.nbAvail + 1 < p.k) :
    ((rsRecv IO s p esi v j).2.1.avail.get esi).map (·.prov) = some (Prov.app j) :=
  rsRecv_pointer_identity IO s p esi j v hf he

/-- **LDPC-Staircase / 2D: `of_finish_decoding` tells the truth.**  On a configured session (any state: before or after a previous
Gaussian elimination), the status is OK exactly when decoding is complete afterwards and FAILURE exactly when it is not, and a symbol
that was known stays known (completion never reverts).  No hypothesis on the matrix or on the symbol values. -/
theorem C10_ldpc_finish_truthful (IO : SymIO σ) (s : Session σ) (p : Params) (it : IT.St σ) (hit : s.it = some it) (hk : it.k = p.k) :
    ∃ it', (ldpcFinish IO s p).2.1.it = some it' ∧
      ((ldpcFinish IO s p).1 = Status.ok ↔ it'.complete = true) ∧
      ((ldpcFinish IO s p).1 = Status.failure ↔ it'.complete = false) ∧
      (∀ e, it.known e = true → it'.known e = true) := by
  obtain ⟨it', h1, h2, h3, h4, _⟩ := LdpcFin.ldpcFinish_truthful IO s p it hit hk
  exact ⟨it', h1, h2, h3, h4⟩

/-- **LDPC-Staircase / 2D: pointer identity.**  A source symbol submitted while still unknown is recorded — and from then on reported
by `of_get_source_symbols_tab` — with the very pointer the application supplied (`app j` = its j-th buffer for that ESI); and the record
of a symbol that is already known is not touched by any later submission or by `of_finish_decoding`. -/
theorem C10_ldpc_pointer_identity (IO : SymIO σ) (s : Session σ) (p : Params) (esi j : Nat) (v : σ) (it : IT.St σ) (hit : s.it = some it)
    (hcons : s.mlConsumed = false) (hrows : ITEvents.RowsLt p.n it) (hesi : esi < p.n) :
    (it.known esi = false → esi < p.k → (ldpcRecv IO s p esi v j).2.1.srcProv.get esi = some (Prov.app j)) ∧
    (∀ e, it.known e = true → (ldpcRecv IO s p esi v j).2.1.srcProv.get e = s.srcProv.get e) ∧
    (it.k = p.k → ∀ e, it.known e = true → (ldpcFinish IO s p).2.1.srcProv.get e = s.srcProv.get e) := by
  obtain ⟨_, _, _, _, _, hmem⟩ := C11_ldpc_recv_events IO s p esi j v it hit hcons hrows hesi
  -- no event of the submission is the submitted symbol or a known one: their records are what they were before the events' updates
  have hrecv : ∀ e, e = esi ∨ it.known e = true → (ldpcRecv IO s p esi v j).2.1.srcProv.get e =
      (if (!it.known esi && decide (esi < p.k)) = true then s.srcProv.set esi (some (.app j)) else s.srcProv).get e := by
    intro e he
    rw [ldpcRecv_eq IO s p esi j v hit] at hmem ⊢
    -- `srcProv e` records where the buffer reported for source symbol e comes from; the updates at the events leave the other records alone
    refine TMap.get_foldl_set_other (fun h => ?_) _
    obtain ⟨_, h1, _, h2⟩ := (hmem e).mp h
    exact he.elim h2 fun hk => by rw [hk] at h1; cases h1
  refine ⟨fun hf hk => ?_, fun e he => ?_, fun hk e he => ?_⟩
  · rw [hrecv esi (.inl rfl)]
    simp [hf, hk]
  · rw [hrecv e (.inr he)]
    split
    · rename_i hc
      refine TMap.get_set_ne _ _ fun h => ?_
      rw [← h, he] at hc
      cases hc
    · rfl
  · obtain ⟨_, _, _, hfin⟩ := C11_ldpc_finish_events IO s p it hit hk
    obtain ⟨st, s', it', ev, h, -, hP, -⟩ := MLSound.ldpcFinish_cases IO s p it hit
    rw [h] at hfin ⊢
    exact hP ▸ TMap.get_foldl_set_other (fun h => by rw [((hfin e).mp h).2.1] at he; cases he) _
