import OpenFecVerif.Proofs.LdpcFin
import OpenFecVerif.Proofs.ITEvents
/-!
# C11 — decoded-source-symbol callback contract (session model)

In the session model a callback event is emitted for exactly the ESIs returned in the third component
of a decoder step, and the destination of the decoded value is `cbDest policy esi`.
-/
open Api
variable {σ : Type}

/-- where a decoded symbol is stored: the callback's buffer when it returns one, a library buffer otherwise -/
theorem C11_dest_policy (e : Nat) :
    cbDest .buf e = Prov.cb ∧ cbDest .null e = Prov.lib ∧ cbDest .none e = Prov.lib ∧
    cbDest .mix e = (if e % 2 == 0 then Prov.cb else Prov.lib) := by
  simp [cbDest]

/-- Reed-Solomon: the events of a decoding are exactly the source symbols that were missing, each once -/
theorem C11_rs_events_exactly_missing (IO : SymIO σ) (s : Session σ) (p : Params) :
    (rsDecode IO s p).2 = (List.range p.k).filter (fun i => (s.avail.get i).isNone) ∧
    ((rsDecode IO s p).2).Nodup := by
  unfold rsDecode
  exact ⟨rfl, (List.nodup_range).filter _⟩

/-- … and never one that had been received -/
theorem C11_rs_never_for_received (IO : SymIO σ) (s : Session σ) (p : Params) (i : Nat)
    (h : (s.avail.get i).isSome = true) : i ∉ (rsDecode IO s p).2 := by
  rw [(C11_rs_events_exactly_missing IO s p).1, List.mem_filter]
  rintro ⟨_, hn⟩
  rw [Option.isNone_iff_eq_none.mp hn] at h
  cases h

private theorem fold_cb (l : List Nat) (F : RS.Fld) (O : Ops σ) (chosen : List (Nat × σ)) (s : Session σ) :
    (l.foldl (fun (s : Session σ) j =>
      { s with avail := s.avail.set j (some ⟨RS.interpolate F O chosen j, cbDest s.cb j⟩) }) s).cb = s.cb := by
  rw [rs_fold_eq]

/-- the decoded value is recorded with the destination the policy prescribes -/
theorem C11_rs_stored_per_policy (IO : SymIO σ) (s : Session σ) (p : Params) (i : Nat)
    (hi : i < p.k) (hmiss : (s.avail.get i).isNone = true) :
    (((rsDecode IO s p).1.avail.get i).map (·.prov)) = some (cbDest s.cb i) := by
  unfold rsDecode
  simp only [rs_fold_eq]
  exact congrArg _ (TMap.get_foldl_set_of_mem (key := id) (x := i) (by simp [hi, hmiss]) (fun _ _ h => h) _)

/-- **LDPC-Staircase / 2D, Gaussian-elimination stage: the callback events of `of_finish_decoding`** are exactly the source symbols
that were unknown before the call and are known after it, each exactly once (the list has no repetition), never a symbol that was
already known, never an ESI ≥ k. -/
theorem C11_ldpc_finish_events (IO : SymIO σ) (s : Session σ) (p : Params) (it : IT.St σ) (hit : s.it = some it) (hk : it.k = p.k) :
    ∃ it', (ldpcFinish IO s p).2.1.it = some it' ∧ (ldpcFinish IO s p).2.2.Nodup ∧
      ∀ e, e ∈ (ldpcFinish IO s p).2.2 ↔ (e < p.k ∧ it.known e = false ∧ it'.known e = true) := by
  obtain ⟨it', h1, _, _, _, h5, h6⟩ := LdpcFin.ldpcFinish_truthful IO s p it hit hk
  exact ⟨it', h1, h5, h6⟩

/-- **LDPC-Staircase / 2D, iterative-decoding stage: the callback events of one `of_decode_with_new_symbol`** (or of one entry of
`of_set_available_symbols`) are exactly the source symbols that were unknown before the call, are known after it and are not the submitted
symbol, each exactly once.  Known symbols stay known (and the bound on the equations' entries is kept, so the statement applies to the
next call), hence over a whole session no symbol is reported twice and never one that was received.  Hypotheses: the entries of the
decoder's equations are below n (true of every configured session, C05) and the matrix has not been consumed by `of_finish_decoding`
(afterwards submissions are only registered and produce no event). -/
theorem C11_ldpc_recv_events (IO : SymIO σ) (s : Session σ) (p : Params) (esi j : Nat) (v : σ) (it : IT.St σ) (hit : s.it = some it)
    (hcons : s.mlConsumed = false) (hrows : ITEvents.RowsLt p.n it) (hesi : esi < p.n) :
    ∃ it', (ldpcRecv IO s p esi v j).2.1.it = some it' ∧ ITEvents.RowsLt p.n it' ∧ (∀ e, it.known e = true → it'.known e = true) ∧
      (ldpcRecv IO s p esi v j).2.2.Nodup ∧
      ∀ e, e ∈ (ldpcRecv IO s p esi v j).2.2 ↔ (e < p.k ∧ it.known e = false ∧ it'.known e = true ∧ e ≠ esi) := by
  obtain ⟨ev, -⟩ := ITEvents.PA_all (IO.ops 3 p.m p.len) p.n (p.n + 1) it esi v hrows hesi
    (Nat.le_trans (ITAbs.cnt_le _ _) (Nat.le_succ _))
  obtain ⟨nw, d, nd, a, b⟩ := ev.ex
  have hit' : recvIt IO s p it esi v = IT.decode (IO.ops 3 p.m p.len) (p.n + 1) it esi v := recvIt_of_not_consumed hcons ..
  have hev : recvNew IO s p it esi v = nw.filter (· < p.k) := by simp [recvNew, hit', d]
  rw [ldpcRecv_eq IO s p esi j v hit, hev, hit']
  refine ⟨_, rfl, ev.rows_lt, ev.mono, nd.filter _, fun e => ?_⟩
  simp only [List.mem_filter, decide_eq_true_eq]
  exact ⟨fun ⟨h1, h2⟩ => ⟨h2, (a e h1).1, (a e h1).2.1, fun h => (a e h1).2.2 (h ▸ rfl)⟩,
    fun ⟨h1, h2, h3, h4⟩ => ⟨((b e h3).resolve_left (by simp [h2])).resolve_left fun h => h4 (Option.some.inj h), h1⟩⟩
