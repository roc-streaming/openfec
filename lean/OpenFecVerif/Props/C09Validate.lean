import OpenFecVerif.Props.C09
import OpenFecVerif.Gen.Validate
/-!
# C09 — the argument validation of `of_set_fec_parameters`, over the code itself

`Gen/Validate.lean` is regenerated on every run from `of_openfec_api.c` and the four `*_api.c` files: the translator follows each
`*_set_fec_parameters` function from its first statement up to the first statement outside its subset (the first allocation, the
construction of the parity-check matrix, the `switch` on the codec); every path that reaches that point yields "CONTINUE", every
`goto error` yields the name of the status constant returned there.  The theorems below characterise exactly which arguments reach
"CONTINUE", and `C09_limits_are_the_code` ties the hand-written acceptance predicate of the session model (`Api.withinLimits`, which
the other C09 theorems and the correspondence use) to these translations.
-/
open Api

/-- The translated prefix `s` reaches "CONTINUE" exactly under `P` and answers `OF_STATUS_FATAL_ERROR` otherwise: the conclusion of
every validation theorem below.  A prefix is a chain of `if (bad) goto error;`.  `last` and `guard` take it apart one test at a time
(a term `last.guard.guard` is accepted only if the translation unfolds to a chain of exactly that shape), and `P` comes out as the
conjunction of the negated tests in the order of the source; `iff` restates it. -/
def Validates (s : String) (P : Prop) : Prop :=
  (s = "CONTINUE" ↔ P) ∧ (s ≠ "CONTINUE" → s = "OF_STATUS_FATAL_ERROR")

namespace Validates

theorem ok : Validates "CONTINUE" True :=
  ⟨iff_true_intro rfl, fun h => absurd rfl h⟩

theorem err : Validates "OF_STATUS_FATAL_ERROR" False :=
  ⟨iff_false_intro (by decide), fun _ => rfl⟩

theorem iff {s : String} {P Q : Prop} (h : Validates s P) (e : P ↔ Q) : Validates s Q :=
  ⟨h.1.trans e, h.2⟩

/-- one `if (c) goto error;` in front of the rest -/
theorem guard {c : Prop} [Decidable c] {s : String} {Q : Prop} (hs : Validates s Q) :
    Validates (if c then "OF_STATUS_FATAL_ERROR" else s) (¬ c ∧ Q) := by
  split
  · exact err.iff (iff_of_false id fun q => q.1 ‹c›)
  · exact hs.iff (and_iff_right ‹¬ c›).symm

theorem last {c : Prop} [Decidable c] : Validates (if c then "OF_STATUS_FATAL_ERROR" else "CONTINUE") (¬ c) :=
  ok.guard.iff (and_iff_left trivial)

theorem fatal_iff {s : String} {P : Prop} (h : Validates s P) : s = "OF_STATUS_FATAL_ERROR" ↔ ¬ P :=
  ⟨fun e p => err.1.mp (e ▸ h.1.mpr p), fun np => h.2 fun e => np (h.1.mp e)⟩

end Validates

/-- generic layer (`of_set_fec_parameters` in of_openfec_api.c): non-NULL arguments and non-zero k, n−k, symbol length -/
theorem C09_generic_validation (k r len ses params : Nat) :
    (Gen.of_set_fec_parameters k r len ses params = "CONTINUE" ↔ (ses ≠ 0 ∧ params ≠ 0 ∧ 1 ≤ k ∧ 1 ≤ r ∧ 1 ≤ len)) ∧
    (Gen.of_set_fec_parameters k r len ses params ≠ "CONTINUE" → Gen.of_set_fec_parameters k r len ses params = "OF_STATUS_FATAL_ERROR") := by
  unfold Gen.of_set_fec_parameters
  -- inside the second test the source has three `if`s that only print which argument is bad; the translation keeps them, with
  -- the one `goto error` at each of their eight leaves
  simp only [ite_self]
  exact Validates.last.guard.iff (by omega)

/-- Reed-Solomon GF(2^8) (`of_rs_set_fec_parameters`): k ≤ max_k, n−k ≤ max_n and k + (n−k) ≤ max_n in 32-bit arithmetic -/
theorem C09_rs8_validation (k maxk r maxn len : Nat) (hmaxk : maxk < 2 ^ 31) (hmax : maxn < 2 ^ 31) :
    (Gen.of_rs_set_fec_parameters k maxk r maxn len = "CONTINUE" ↔ (k ≤ maxk ∧ k + r ≤ maxn)) ∧
    (Gen.of_rs_set_fec_parameters k maxk r maxn len ≠ "CONTINUE" → Gen.of_rs_set_fec_parameters k maxk r maxn len = "OF_STATUS_FATAL_ERROR") :=
  -- the second test is `r > max_n || (k + r) % 2^32 > max_n`: past its first half and the first test, k and r are below 2^31 and the
  -- sum does not wrap
  Validates.last.guard.iff (by omega)

/-- `ofcb->field_size = (1 << ofcb->m) - 1` of `of_rs_2_m_set_fec_parameters`, a 16-bit field, as it is translated -/
theorem fieldSize_eq {m : Nat} (h : m = 4 ∨ m = 8) :
    Int.toNat ((CSem.toSigned 32 ((Int.toNat ((1 : Int) % 4294967296) <<< Int.toNat ((m : Nat) : Int)) % 4294967296) - (1 : Int)) % 65536)
      = 2 ^ m - 1 := by
  rcases h with rfl | rfl <;> decide

/-- Reed-Solomon GF(2^m) (`of_rs_2_m_set_fec_parameters`): m ∈ {4, 8} and k ≤ 2^m − 1.  **The number of repair symbols is not
examined** — this is the known finding of C09 (n > 2^m − 1 is accepted), here as a statement about the source. -/
theorem C09_rs2m_validation (m k r len : Nat) :
    (Gen.of_rs_2_m_set_fec_parameters m k r len = "CONTINUE" ↔ ((m = 4 ∨ m = 8) ∧ k ≤ 2 ^ m - 1)) ∧
    (Gen.of_rs_2_m_set_fec_parameters m k r len ≠ "CONTINUE" → Gen.of_rs_2_m_set_fec_parameters m k r len = "OF_STATUS_FATAL_ERROR") :=
  Validates.last.guard.iff (by
    rw [show ¬ ((m : Int) ≠ 4 ∧ (m : Int) ≠ 8) ↔ m = 4 ∨ m = 8 by omega]
    exact and_congr_right fun h => by rw [fieldSize_eq h, Nat.not_lt])

/-- LDPC-Staircase (`of_ldpc_staircase_set_fec_parameters`, up to the call that builds the matrix): N1 ≥ 3, seed in 1..2^31−2,
k ≤ max_k, n−k ≤ max_n, k + (n−k) ≤ max_n in 32-bit arithmetic -/
theorem C09_ldpc_validation (N1 : Nat) (seed : Int) (k maxk r maxn len : Nat) (hmaxk : maxk < 2 ^ 31) (hmax : maxn < 2 ^ 31) :
    (Gen.of_ldpc_staircase_set_fec_parameters N1 seed k maxk r maxn len = "CONTINUE" ↔
      (3 ≤ N1 ∧ 1 ≤ seed ∧ seed ≤ 2147483646 ∧ k ≤ maxk ∧ k + r ≤ maxn)) ∧
    (Gen.of_ldpc_staircase_set_fec_parameters N1 seed k maxk r maxn len ≠ "CONTINUE" →
      Gen.of_ldpc_staircase_set_fec_parameters N1 seed k maxk r maxn len = "OF_STATUS_FATAL_ERROR") :=
  Validates.last.guard.guard.guard.guard.iff (by omega)

/-- 2D parity (`of_2d_parity_set_fec_parameters`, up to the construction of the matrix): k ≤ max_k and k + (n−k) ≤ max_n in 32-bit
arithmetic.  Unlike the Reed-Solomon and LDPC-Staircase functions this one does not test n−k on its own, so n−k below 2^31 is a
hypothesis: k = 1, n−k = 2^32 − 1 passes, the sum wrapping to 0. -/
theorem C09_2d_validation (k maxk r maxn len : Nat) (hmaxk : maxk < 2 ^ 31) (hr31 : r < 2 ^ 31) :
    (Gen.of_2d_parity_set_fec_parameters k maxk r maxn len = "CONTINUE" ↔ (k ≤ maxk ∧ k + r ≤ maxn)) ∧
    (Gen.of_2d_parity_set_fec_parameters k maxk r maxn len ≠ "CONTINUE" →
      Gen.of_2d_parity_set_fec_parameters k maxk r maxn len = "OF_STATUS_FATAL_ERROR") :=
  Validates.last.guard.iff (by omega)

/-- **the hand-written acceptance predicate of the session model is what the code computes** (codecs 1 and 3; limits regenerated from
the headers; arguments non-NULL): `Api.withinLimits` holds exactly when the generic layer and the codec's own validation both reach the
point where the session is set up, and — for LDPC-Staircase — N1 ≤ n−k, which `of_create_pchck_matrix_rfc5170_compliant` tests first -/
theorem C09_limits_are_the_code (codec : Nat) (p : Params) (ses params : Nat) (hs : ses ≠ 0) (hp : params ≠ 0) (hc : codec = 1 ∨ codec = 3) :
    withinLimits codec p = true ↔
      (Gen.of_set_fec_parameters p.k p.r p.len ses params = "CONTINUE" ∧
       (codec = 1 → Gen.of_rs_set_fec_parameters p.k Gen.RS_MAX_K p.r Gen.RS_MAX_N p.len = "CONTINUE") ∧
       (codec = 3 → (Gen.of_ldpc_staircase_set_fec_parameters p.N1 p.seed p.k Gen.LDPC_MAX_K p.r Gen.LDPC_MAX_N p.len = "CONTINUE"
                     ∧ p.N1 ≤ p.r))) := by
  rw [(C09_limits codec p).1, (C09_generic_validation p.k p.r p.len ses params).1]
  rcases hc with rfl | rfl
  · rw [(C09_rs8_validation p.k Gen.RS_MAX_K p.r Gen.RS_MAX_N p.len (by decide) (by decide)).1]
    constructor
    · rintro ⟨a, b, c, d, e, -, -⟩
      exact ⟨⟨hs, hp, a, b, c⟩, fun _ => ⟨d, e⟩, nofun⟩
    · rintro ⟨⟨-, -, a, b, c⟩, h1, -⟩
      exact ⟨a, b, c, (h1 rfl).1, (h1 rfl).2, nofun, nofun⟩
  · rw [(C09_ldpc_validation p.N1 p.seed p.k Gen.LDPC_MAX_K p.r Gen.LDPC_MAX_N p.len (by decide) (by decide)).1]
    constructor
    · rintro ⟨a, b, c, d, e, -, h7⟩
      obtain ⟨f, g, h, i⟩ := h7 rfl
      exact ⟨⟨hs, hp, a, b, c⟩, nofun, fun _ => ⟨⟨f, h, i, d, e⟩, g⟩⟩
    · rintro ⟨⟨-, -, a, b, c⟩, -, h3⟩
      obtain ⟨⟨f, h, i, d, e⟩, g⟩ := h3 rfl
      exact ⟨a, b, c, d, e, nofun, fun _ => ⟨f, g, h, i⟩⟩

/-- Reed-Solomon GF(2^m): inside the model's limits the code's validation passes; conversely the code only guarantees m ∈ {4, 8} and
k ≤ 2^m − 1 (the known finding: n is not bounded by the field size) -/
theorem C09_limits_rs2m (p : Params) (ses params : Nat) (hs : ses ≠ 0) (hp : params ≠ 0) (h : withinLimits 2 p = true) :
    Gen.of_set_fec_parameters p.k p.r p.len ses params = "CONTINUE" ∧
    Gen.of_rs_2_m_set_fec_parameters p.m p.k p.r p.len = "CONTINUE" := by
  obtain ⟨a, b, c, d, -, f, -⟩ := (C09_limits 2 p).1.mp h
  exact ⟨(C09_generic_validation p.k p.r p.len ses params).1.mpr ⟨hs, hp, a, b, c⟩,
    (C09_rs2m_validation p.m p.k p.r p.len).1.mpr ⟨f rfl, d⟩⟩

/-- the role test `!(codec_type & bit)` of the generic layer, as the compiler evaluates it on the promoted 8-bit field -/
abbrev roleMissing (ct : Nat) (b : Int) : Prop :=
  (if (CSem.toSigned 32 ((Int.toNat (((ct : Nat) : Int) % 4294967296)) &&& (Int.toNat (b % 4294967296)))) ≠ 0 then (0 : Int) else 1) ≠ 0

theorem roleMissing_iff : ∀ ct < 256, (roleMissing ct 1 ↔ ct &&& 1 = 0) ∧ (roleMissing ct 2 ↔ ct &&& 2 = 0) := by
  decide +kernel

/-- `of_build_repair_symbol` (generic layer): non-NULL session, an encoder role, and k ≤ ESI < n -/
theorem C09_build_validation (ct k r ses esi : Nat) (hct : ct < 256) (hn : k + r < 2 ^ 32) :
    (Gen.of_build_repair_symbol ct k r ses esi = "CONTINUE" ↔ (ses ≠ 0 ∧ ct &&& 1 ≠ 0 ∧ k ≤ esi ∧ esi < k + r)) ∧
    (Gen.of_build_repair_symbol ct k r ses esi ≠ "CONTINUE" → Gen.of_build_repair_symbol ct k r ses esi = "OF_STATUS_FATAL_ERROR") :=
  Validates.last.guard.guard.iff (by
    rw [← roleMissing, (roleMissing_iff ct hct).1, Nat.mod_eq_of_lt hn]
    omega)

/-- `of_decode_with_new_symbol` (generic layer): non-NULL session and buffer, a decoder role, and ESI < n -/
theorem C09_decode_validation (k r ct ses buf esi : Nat) (hct : ct < 256) (hn : k + r < 2 ^ 32) :
    (Gen.of_decode_with_new_symbol k r ct ses buf esi = "CONTINUE" ↔ (ses ≠ 0 ∧ buf ≠ 0 ∧ ct &&& 2 ≠ 0 ∧ esi < k + r)) ∧
    (Gen.of_decode_with_new_symbol k r ct ses buf esi ≠ "CONTINUE" → Gen.of_decode_with_new_symbol k r ct ses buf esi = "OF_STATUS_FATAL_ERROR") :=
  Validates.last.guard.guard.iff (by
    rw [← roleMissing, (roleMissing_iff ct hct).2, Nat.mod_eq_of_lt hn]
    omega)

/-- `of_set_available_symbols`, `of_finish_decoding`, `of_get_source_symbols_tab` (generic layer): non-NULL arguments and a decoder role -/
theorem C09_decoder_calls_validation (ct ses tab : Nat) (hct : ct < 256) :
    (Gen.of_set_available_symbols ct ses tab = "CONTINUE" ↔ (ses ≠ 0 ∧ tab ≠ 0 ∧ ct &&& 2 ≠ 0)) ∧
    (Gen.of_finish_decoding ct ses = "CONTINUE" ↔ (ses ≠ 0 ∧ ct &&& 2 ≠ 0)) ∧
    (Gen.of_get_source_symbols_tab ct ses = "CONTINUE" ↔ (ses ≠ 0 ∧ ct &&& 2 ≠ 0)) ∧
    (Gen.of_set_available_symbols ct ses tab ≠ "CONTINUE" → Gen.of_set_available_symbols ct ses tab = "OF_STATUS_FATAL_ERROR") ∧
    (Gen.of_finish_decoding ct ses ≠ "CONTINUE" → Gen.of_finish_decoding ct ses = "OF_STATUS_FATAL_ERROR") ∧
    (Gen.of_get_source_symbols_tab ct ses ≠ "CONTINUE" → Gen.of_get_source_symbols_tab ct ses = "OF_STATUS_FATAL_ERROR") := by
  have hr := (roleMissing_iff ct hct).2
  unfold roleMissing at hr
  have A : Validates (Gen.of_set_available_symbols ct ses tab) (ses ≠ 0 ∧ tab ≠ 0 ∧ ct &&& 2 ≠ 0) :=
    Validates.last.guard.guard.iff (by rw [hr])
  have B : Validates (Gen.of_finish_decoding ct ses) (ses ≠ 0 ∧ ct &&& 2 ≠ 0) :=
    Validates.last.guard.iff (by rw [hr])
  have C : Validates (Gen.of_get_source_symbols_tab ct ses) (ses ≠ 0 ∧ ct &&& 2 ≠ 0) :=
    Validates.last.guard.iff (by rw [hr])
  exact ⟨A.1, B.1, C.1, A.2, B.2, C.2⟩

variable {σ : Type}

/-- **the session model's guard on submissions is the code's**: `Api.step` answers FATAL to a submission exactly when the generic layer
of `of_decode_with_new_symbol` refuses it (role as stored at creation: 1 encoder, 2 decoder, 3 both; NULL buffer = `null`) -/
theorem C09_recv_guard_is_the_code (s : Session σ) (p : Params) (ses buf esi : Nat) (hs : ses ≠ 0) (hrole : s.role = 1 ∨ s.role = 2 ∨ s.role = 3)
    (hn : p.k + p.r < 2 ^ 32) :
    (decide (esi ≥ p.n) || decide (buf = 0) || !isDec s) = true ↔
      Gen.of_decode_with_new_symbol p.k p.r s.role ses buf esi = "OF_STATUS_FATAL_ERROR" := by
  have hdec : isDec s = false ↔ s.role &&& 2 = 0 := by
    unfold isDec
    rcases hrole with h | h | h <;> rw [h] <;> decide
  rw [Validates.fatal_iff (C09_decode_validation p.k p.r s.role ses buf esi (by omega) hn)]
  simp only [Bool.or_eq_true, decide_eq_true_eq, Bool.not_eq_true', hdec]
  unfold Params.n
  omega

#print axioms C09_generic_validation
#print axioms C09_rs8_validation
#print axioms C09_rs2m_validation
#print axioms C09_ldpc_validation
#print axioms C09_2d_validation
#print axioms C09_limits_are_the_code
#print axioms C09_limits_rs2m
#print axioms C09_build_validation
#print axioms C09_decode_validation
#print axioms C09_decoder_calls_validation
#print axioms C09_recv_guard_is_the_code
