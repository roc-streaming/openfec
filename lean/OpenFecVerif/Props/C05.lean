import OpenFecVerif.Props.C19
import OpenFecVerif.Proofs.Session
import OpenFecVerif.Proofs.ITInd
import OpenFecVerif.Gen.Macros
import OpenFecVerif.Proofs.RfcTotal
/-!
# C05 — the LDPC-Staircase code depends only on (k, n, N1, seed)

`Rfc5170.create rn g k r N1 seed` is the transcription of RFC 5170's construction driven by the
*translated* PRNG (`Gen.of_rfc5170_rand`, `Gen.of_rfc5170_srand`); `g` is the process-global PRNG state
(`of_seed`) found when the session is configured.
-/
open Rfc5170

/-- For a valid seed the matrix (and the PRNG state left behind) is independent of the global state:
sessions created after any history of other sessions, in any process, get the same equations. -/
theorem C05_indep_global (rn : Rat → Rat) (g g' k r N1 seed : Nat) (h1 : 1 ≤ seed) (h2 : seed ≤ 2147483646) :
    create rn g k r N1 seed = create rn g' k r N1 seed ∨
    (N1 > r ∧ (create rn g k r N1 seed).2 = none ∧ (create rn g' k r N1 seed).2 = none) := by
  by_cases h : N1 > r
  · right; simp [create, h]
  · exact .inl (RfcWF.create_indep ⟨h1, h2⟩ (Nat.not_lt.mp h) g g' k)

/-- why seeds outside 1..2^31−2 must be rejected (C09): seeding leaves the global state in place,
so the construction then starts from whatever state the previous session left -/
theorem C05_invalid_seed_keeps_state (g seed : Nat) (h : ¬ (1 ≤ seed ∧ seed ≤ 2147483646)) :
    Gen.of_rfc5170_srand g seed = g := by
  rw [C19_seed_guard, if_neg h]

/-- the repair part is the staircase: equation i ends with the repair ESIs k+i−1 (for i > 0) and k+i -/
theorem C05_staircase (rn : Rat → Rat) (g k r N1 seed : Nat) (M : Matrix)
    (h : (create rn g k r N1 seed).2 = some M) (i : Nat) (hi : i < r) :
    M.rows.length = r ∧ ∃ src : List Nat, M.rows.getD i [] = src ++ (if i = 0 then [k] else [k + i - 1, k + i]) := by
  rw [RfcWF.create_snd] at h
  split at h
  · cases h
  · obtain ⟨c, _, h⟩ := Option.bind_eq_some_iff.mp h
    obtain ⟨x, _, rfl⟩ := Option.map_eq_some_iff.mp h
    exact ⟨by simp, x.2.1.getD i [], RfcWF.getD_map_range _ _ r i hi⟩

/-- N1 larger than the number of repair symbols is rejected -/
theorem C05_rejects_large_N1 (rn : Rat → Rat) (g k r N1 seed : Nat) (h : N1 > r) :
    (create rn g k r N1 seed).2 = none := by
  simp [create, h]

/-- the translated generator is well behaved for every rounding operator of the binary64 standard model (C19) -/
theorem C05_goodRand (rn : ℚ → ℚ) (h : RN53 rn) : RfcWF.GoodRand rn := .of_RN53 h

/-- **Every matrix the construction returns, for every (k, n−k, N1, seed), is well formed and has the staircase shape**: n−k
equations; no repeated entry; entries below n; no equation with a single entry; equation i contains repair symbol k+i and otherwise
only smaller symbols.  These are exactly the hypotheses of the decoder theorems: `wfCheck` (C04), `WFH` and `stairCheck` (C03), the
duplicate-freeness used by C01 — so those theorems hold for every accepted LDPC-Staircase configuration. -/
theorem C05_matrix_wf (rn : ℚ → ℚ) (hrn : RN53 rn) (g k r N1 seed : Nat) (hk : 1 ≤ k) (hr : 1 ≤ r) (hk63 : k < 2 ^ 63) (hr63 : r < 2 ^ 63)
    (ht63 : N1 * k < 2 ^ 63) (h1 : 1 ≤ seed) (h2 : seed ≤ 2147483646) (g' : Nat) (M : Matrix)
    (h : create rn g k r N1 seed = (g', some M)) :
    M.rows.length = r ∧ wfCheck (k + r) M.rows = true ∧ MLComplete.WFH M.rows (k + r) ∧ Api.stairCheck k M.rows = true := by
  obtain ⟨q1, q2, q3⟩ := (RfcWF.create_built (C05_goodRand rn hrn) hk hr hk63 hr63 ht63 ⟨h1, h2⟩ h).wf
  exact ⟨q1, wfCheck_iff.mpr q2, .of_wfCheck (wfCheck_iff.mpr q2), stairCheck_iff.mpr q3⟩

/-- **Every accepted LDPC-Staircase configuration yields a session that meets the hypotheses of the decoder theorems** (C01, C03, C04,
C10, C11): if `of_set_fec_parameters` (session model, as executed by `ofmodel`) returns OK, the session has n−k equations, duplicate-free,
within 0..n−1, none with a single entry, staircase shaped, and its decoder state is initialised for k source symbols.  No hypothesis is
left: the rounding function of the executable model is in the standard model (`C19_executable_rounding_in_standard_model`). -/
theorem C05_configured_session {σ : Type} (IO : Api.SymIO σ) (g : Nat) (s : Api.Session σ)
    (p : Api.Params) (g' : Nat) (s' : Api.Session σ) (hc : s.codec = 3) (h : Api.setParamsStd IO g s p = (g', Api.Status.ok, s')) :
    s'.H.length = p.r ∧ MLComplete.WFH s'.H (p.k + p.r) ∧ (∀ row ∈ s'.H, row.length ≠ 1) ∧ Api.stairCheck p.k s'.H = true ∧
    s'.mlConsumed = s.mlConsumed ∧ ∃ it, s'.it = some it ∧ it.k = p.k := by
  obtain ⟨hlim, M, hM, hH, _, hml, hit⟩ := Api.setParamsStd_ok_ldpc hc h
  obtain ⟨hk1, hr1, hn, hN1r, hseed⟩ := Api.withinLimits_ldpc hlim
  have hmul : p.N1 * p.k ≤ 50000 * 50000 := Nat.mul_le_mul (by omega) (by omega)
  obtain ⟨q1, q2, q3, q4⟩ := C05_matrix_wf CSem.rne53 C19_executable_rounding_in_standard_model g p.k p.r p.N1 _ hk1 hr1 (by omega)
    (by omega) (by omega) hseed.1 hseed.2 g' M hM
  rw [hH]
  refine ⟨q1, q3, fun row hrow => (wfCheck_iff.mp q2 row hrow).2.2, q4, hml, _, hit, ?_⟩
  -- an even-N1 decoder starts from the state after the pretended submission of the last repair symbol (C15), which keeps k
  split
  · exact IT.decode_k ..
  · rfl

/-- `vm_symbol_col` for `a` symbols of one kind followed by `b` of the other: the two kinds change places.  `vm_symbol_esi` is the
same text with the two counts exchanged, so this serves both macros. -/
theorem symbol_col (a b x : Nat) (hn : a + b < 2147483648) (hx : x < a + b) :
    (Gen.vm_symbol_col a b x).2.2 = (if x < a then ((x + b : Nat) : Int) else ((x - a : Nat) : Int)) := by
  unfold Gen.vm_symbol_col
  dsimp only
  split
  · have h : x + b < 2147483648 := Nat.lt_trans (Nat.add_lt_add_right ‹x < a› b) hn
    rw [Nat.mod_mod, Nat.mod_eq_of_lt (Nat.lt_trans h (by decide)), CSem.toSigned, if_pos h]
  · have h : x - a < 2147483648 := Nat.lt_of_le_of_lt (Nat.sub_le x a) (Nat.lt_trans hx hn)
    rw [Nat.mod_mod, Nat.sub_add_comm (Nat.le_of_not_lt ‹_›), Nat.add_mod_right, Nat.mod_eq_of_lt (Nat.lt_trans h (by decide)),
      CSem.toSigned, if_pos h]

/-- the column mapping macros of of_symbol.h (translated each run): repair symbols occupy matrix columns 0..r−1 and source symbols
columns r..n−1; the two macros are inverse bijections between ESIs and columns of [0, n) -/
theorem C05_column_mapping (k r : Nat) (hn : k + r < 2147483648) :
    (∀ esi, esi < k + r → (Gen.vm_symbol_col k r esi).2.2 = (if esi < k then ((esi + r : Nat) : Int) else ((esi - k : Nat) : Int))) ∧
    (∀ col, col < k + r → (Gen.vm_symbol_esi r k col).2.2 = (if col < r then ((col + k : Nat) : Int) else ((col - r : Nat) : Int))) ∧
    (∀ esi, esi < k + r → (Gen.vm_symbol_esi r k (Int.toNat (Gen.vm_symbol_col k r esi).2.2)).2.2 = (esi : Int)) := by
  have hn' : r + k < 2147483648 := Nat.add_comm k r ▸ hn
  refine ⟨fun esi he => symbol_col k r esi hn he, fun col he => symbol_col r k col hn' (Nat.add_comm k r ▸ he), fun esi he => ?_⟩
  rw [symbol_col k r esi hn he]
  show (Gen.vm_symbol_col r k _).2.2 = _
  split
  · rw [Int.toNat_natCast, symbol_col r k _ hn' (by omega), if_neg (Nat.not_lt.mpr (Nat.le_add_left r esi)), Nat.add_sub_cancel]
  · rw [Int.toNat_natCast, symbol_col r k _ hn' (by omega), if_pos (by omega), Nat.sub_add_cancel (Nat.le_of_not_lt ‹_›)]

/-- **The construction always returns a matrix** (termination of RFC 5170's rejection loops): for every rounding operator of the
binary64 standard model, every valid seed, N1 ≤ n−k and sizes with k, n−k, N1·k below 2^30 (the library's limits are far below),
`create` yields a matrix — none of the `do … while` loops can run for 2^31 draws (the argument is at the head of `Proofs/RfcTotal.lean`). -/
theorem C05_construction_total (rn : ℚ → ℚ) (h : RN53 rn) (g k r N1 seed : Nat) (hk : 1 ≤ k) (hr : 1 ≤ r)
    (hk30 : k < 2 ^ 30) (hr30 : r < 2 ^ 30) (ht30 : N1 * k < 2 ^ 30) (hN : N1 ≤ r) (h1 : 1 ≤ seed) (h2 : seed ≤ 2147483646) :
    (create rn g k r N1 seed).2.isSome = true :=
  RfcTotal.create_total h g hk hr hk30 hr30 ht30 hN ⟨h1, h2⟩

-- non-vacuity: the hypotheses are met by an ordinary configuration (k = 1000, n−k = 500, N1 = 5, seed 1, exact arithmetic)
example : RN53 id ∧ (1 : ℕ) ≤ 1000 ∧ (1000 : ℕ) < 2 ^ 30 ∧ 5 * 1000 < 2 ^ 30 ∧ (5 : ℕ) ≤ 500 := ⟨RN53_id, by decide⟩
