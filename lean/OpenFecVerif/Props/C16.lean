import OpenFecVerif.Proofs.Parity2DChecks
import OpenFecVerif.Props.C04
import OpenFecVerif.Props.C03Session
import OpenFecVerif.Props.C01
import OpenFecVerif.Proofs.LdpcEnc
/-!
# C16 — 2D-parity codec: product-parity structure, sound and complete erasure recovery

`Parity2D.dims`/`Parity2D.rowsOf` (Model/Parity2D.lean) transcribe `of_create_2D_pchk_matrix` and
`of_fill_2D_pchk_matrix`; the session model runs codec 5 through the same iterative and ML decoder models as
LDPC-Staircase (the C code does the same).  The codec accepts only k ≤ 16, n ≤ 24, and the statements carry the bounds k ≤ 16, r ≤ 24
(425 pairs, 27 of them accepted, 21 with n = k + r ≤ 24); the structural ones hold of every D × L arrangement (`Proofs/Parity2DChecks`)
and use the bounds only to keep ⌊√n⌋ among the 25 candidates of `acceptSpec`; the decoding statements instantiate the general theorems
(C04: streaming decoding = peeling closure; LdpcEnc: the encoder satisfies every check) at these matrices.
-/
open Parity2D

/-- every accepted configuration is a product shape: k = D·L, r = D + L, with L ≤ ⌊√n⌋; and a configuration is accepted
exactly when such a shape exists (within the limits the codec advertises) -/
theorem C16_accept_iff (k r : Nat) (hk : k ≤ 16) (hr : r ≤ 24) :
    ((dims k r).isSome = acceptSpec k r) ∧ (∀ D L, dims k r = some (D, L) → D * L = k ∧ D + L = r ∧ L * L ≤ k + r) := by
  refine ⟨isSome_dims k r (by omega), fun D L hd => ?_⟩
  obtain ⟨h1, h2, h3, -⟩ := dims_eq_some hd
  exact ⟨h1, h2, h3⟩

/-- **for every configuration the codec accepts** the matrix is the D × L product single-parity code, is well formed,
staircase shaped, and covers every symbol -/
theorem C16_product (k r : Nat) (hk : k ≤ 16) (hr : r ≤ 24) (D L : Nat) (hd : dims k r = some (D, L)) :
    productCheck k D L (rowsOf k D L) = true ∧ wfCheck (k + r) (rowsOf k D L) = true ∧
    stairCheck k (rowsOf k D L) = true ∧ coverCheck (k + r) (rowsOf k D L) = true ∧ (rowsOf k D L).length = r := by
  obtain ⟨rfl, rfl, -, hD, hL⟩ := dims_eq_some hd
  exact ⟨productCheck_rowsOf hD hL, wfCheck_rowsOf hD hL, stairCheck_rowsOf hD hL, coverCheck_rowsOf hD hL, length_rowsOf _ D L⟩

theorem rows_eq_some {k r : Nat} {H : List (List Nat)} (hH : rows k r = some H) :
    wfCheck (k + r) H = true ∧ stairCheck k H = true ∧ H.length = r := by
  obtain ⟨⟨D, L⟩, hd, rfl⟩ := Option.map_eq_some_iff.mp hH
  obtain ⟨rfl, rfl, -, hD, hL⟩ := dims_eq_some hd
  exact ⟨wfCheck_rowsOf hD hL, stairCheck_rowsOf hD hL, length_rowsOf _ D L⟩

variable {V : Type} [AddCommGroup V]

/-- the encoder model satisfies every row check and every column check, for every accepted configuration and every
source block (symbols in any elementary abelian 2-group) -/
theorem C16_encoder_satisfies_checks (h2 : ∀ v : V, v + v = 0) (k r : Nat) (hk : k ≤ 16) (hr : r ≤ 24) (H : List (List Nat))
    (hH : rows k r = some H) (src : List V) (hs : src.length = k) (i : Nat) (hi : i < H.length) :
    ((H.getD i []).map fun e => (Api.ldpcEncode (grpOps V) k H src).getD e 0).sum = 0 :=
  LdpcEnc.parity h2 k H (stairCheck_iff.mp (rows_eq_some hH).2.1) src hs i hi

open ITRefine ITAbs in
/-- any single loss is recovered by peeling: with every other symbol received, the lost one is in the closure -/
theorem C16_single_loss (n : Nat) (H : List (List Nat)) (hcov : coverCheck n H = true) (e : Nat) (he : e < n)
    (R : Nat → Prop) (hR : ∀ x, x < n → x ≠ e → R x) (hwf : wfCheck n H = true) : InClosure (Hf H) R e := by
  obtain ⟨row, hrow, hmem⟩ := List.any_eq_true.mp (List.all_eq_true.mp hcov e (List.mem_range.mpr he))
  obtain ⟨r, hr, rfl⟩ := List.getElem_of_mem hrow
  have hmem' : e ∈ Hf H r := by simpa [Hf, List.getD_eq_getElem?_getD, hr] using hmem
  have hlt := (wf_of_check n H hwf).lt
  exact inClosure_closed (Hf H) R r e hmem' (fun e' he' hne => inClosure_of_mem (Hf H) R e' (hR e' (hlt r e' he') hne))

open ITRefine ITAbs in
/-- the streaming decoder on a 2D matrix: sound, and exactly the peeling closure of what was received, for every accepted
configuration and every submission sequence (any order, duplicates) — C04 instantiated -/
theorem C16_decoder_is_closure {σ : Type} (O : Ops σ) (k r : Nat) (hk : k ≤ 16) (hr : r ≤ 24) (H : List (List Nat))
    (hH : rows k r = some H) (l : List (Nat × σ)) (hl : ∀ p ∈ l, p.1 < k + r) :
    let s := runExec O (k + r) k H l
    let R := fun x => x ∈ l.map (·.1)
    (∀ e, s.known e = true → InClosure (Hf H) R e) ∧
    (s.complete = true ↔ ∀ i, i < k → InClosure (Hf H) R i) ∧
    (∀ i, i < k → (s.known i = true ↔ InClosure (Hf H) R i)) := by
  obtain ⟨hsound, -, hcomplete, hknown⟩ := C04_eq O (k + r) k H (rows_eq_some hH).1 l hl
  exact ⟨hsound, hcomplete, hknown⟩

/-- the structure of every accepted 2D configuration, in the form the decoder theorems need -/
theorem C16_structure (k r : Nat) (hk : k ≤ 16) (hr : r ≤ 24) (H : List (List Nat)) (hH : rows k r = some H) :
    H.length = r ∧ MLComplete.WFH H (k + r) ∧ Api.stairCheck k H = true := by
  obtain ⟨hwf, hst, hlen⟩ := rows_eq_some hH
  exact ⟨hlen, .of_wfCheck hwf, hst⟩

/-- **2D parity: `of_finish_decoding` recovers every erasure pattern the checks determine uniquely, and only those** (C03's theorem
instantiated on every accepted product shape) -/
theorem C16_finish_ok_iff_determined {σ : Type} (IO : Api.SymIO σ) (s : Api.Session σ) (p : Api.Params) (it : IT.St σ)
    (hit : s.it = some it) (hcons : s.mlConsumed = false) (hk16 : p.k ≤ 16) (hr24 : p.r ≤ 24) (hH : rows p.k p.r = some s.H)
    (hk : it.k = p.k) :
    (Api.ldpcFinish IO s p).1 = Api.Status.ok ↔ MLComplete.SourcesDetermined s.H p.k (p.k + p.r) it.known := by
  obtain ⟨h1, h2, h3⟩ := C16_structure p.k p.r hk16 hr24 s.H hH
  exact C03_finish_ok_iff_determined IO s p it hit hcons h2 h3 h1 hk

/-- **2D parity never returns a wrong symbol**: with the encoder's output as the block, whatever is submitted (any subset, order,
duplicates, either API, with `of_finish_decoding`), every source symbol the decoder session holds is the one that was encoded -/
theorem C16_roundtrip {V : Type} [AddCommGroup V] (h2 : ∀ v : V, v + v = 0) (IO : Api.SymIO V) (p : Api.Params)
    (hops : IO.ops 3 p.m p.len = grpOps V) (s : Api.Session V) (it : IT.St V) (hit : s.it = some it) (hk16 : p.k ≤ 16) (hr24 : p.r ≤ 24)
    (hH : rows p.k p.r = some s.H) (src : List V) (hs : src.length = p.k)
    (inv : ITSound.VInv (grpOps V) (fun e => (Api.ldpcEncode (grpOps V) p.k s.H src).getD e 0) it) (ops : List MLSound.DecOp) :
    ∃ it', (MLSound.runDec IO p (fun e => (Api.ldpcEncode (grpOps V) p.k s.H src).getD e 0) s ops).it = some it' ∧
      ∀ e v, e < p.k → it'.sym.get e = some v → v = src.getD e 0 := by
  obtain ⟨h1, h2', h3⟩ := C16_structure p.k p.r hk16 hr24 s.H hH
  exact C01_ldpc_roundtrip h2 IO p hops s it hit h1 (by intro row hrow; rw [h1]; exact h2' row hrow) h3 src hs inv ops

-- non-vacuity: (k, r) = (6, 5) is accepted with D = 2 rows of L = 3
example : dims 6 5 = some (2, 3) ∧ rowsOf 6 2 3 = [[0, 1, 2, 6], [3, 4, 5, 7], [0, 3, 8], [1, 4, 9], [2, 5, 10]] := by
  constructor <;> decide +kernel
