import OpenFecVerif.Proofs.ITExec
import OpenFecVerif.Proofs.Session
/-!
# C04 — LDPC-Staircase streaming decoding = peeling closure, for any arrival order

`ITRefine.runExec O n k Hl l` is the executable decoder model (the transliteration of
`of_linear_binary_code_decode_with_new_symbol`, run by `ofmodel` against the real library after every
call) driven from its initial state by the sequence `l` of (ESI, symbol value) submissions — any order,
repetitions allowed, any prefix.  `ITAbs.InClosure H R` is the iterative-erasure (peeling) closure of the
received set `R` under the parity-check equations `H`: the least set containing `R` such that an equation
with all members but one in the set forces the last one in.
-/
open ITRefine ITAbs

variable {σ : Type}

theorem wf_of_check (n : Nat) (Hl : List (List Nat)) (h : wfCheck n Hl = true) : WF (Hf Hl) n Hl.length := by
  -- an equation is a member of the list, which passed the check, or lies beyond it and is empty
  have hrow : ∀ r, (Hf Hl r).Nodup ∧ (∀ e ∈ Hf Hl r, e < n) ∧ (Hf Hl r).length ≠ 1 := fun r => by
    rcases Hf_nil_or_mem Hl r with h0 | hmem
    · simp [h0]
    · exact wfCheck_iff.mp h _ hmem
  exact ⟨fun r => (hrow r).2.1, fun r => (hrow r).1, fun r => (hrow r).2.2, fun r => Hf_beyond Hl⟩

/-- **C04.** After any sequence of `of_decode_with_new_symbol` calls the set of available symbols is
sound w.r.t. the closure; it IS the closure while decoding is incomplete; decoding is reported complete
exactly when the closure contains all k source symbols; and in every case a source symbol is available
exactly when the closure contains it. -/
theorem C04_eq (O : Ops σ) (n k : Nat) (Hl : List (List Nat)) (hwf : wfCheck n Hl = true)
    (l : List (Nat × σ)) (hl : ∀ p ∈ l, p.1 < n) :
    let s := runExec O n k Hl l
    let R := fun x => x ∈ l.map (·.1)
    (∀ e, s.known e = true → InClosure (Hf Hl) R e) ∧
    (s.complete = false → ∀ e, s.known e = true ↔ InClosure (Hf Hl) R e) ∧
    (s.complete = true ↔ ∀ i, i < k → InClosure (Hf Hl) R i) ∧
    (∀ i, i < k → (s.known i = true ↔ InClosure (Hf Hl) R i)) := by
  intro s R
  have key := run_eq_closure (Hf Hl) n Hl.length k (wf_of_check n Hl hwf) (l.map (·.1)) (List.forall_mem_map.2 hl)
  rw [← abs_runExec O n k Hl l] at key
  exact key

/-- … therefore the available source symbols do not depend on arrival order or on duplicates: two
sequences that submit the same set of ESIs end with the same available source symbols and the same
completion flag. -/
theorem C04_order_dup_independent (O : Ops σ) (n k : Nat) (Hl : List (List Nat)) (hwf : wfCheck n Hl = true)
    (l l' : List (Nat × σ)) (hl : ∀ p ∈ l, p.1 < n) (hl' : ∀ p ∈ l', p.1 < n)
    (hset : ∀ x, x ∈ l.map (·.1) ↔ x ∈ l'.map (·.1)) :
    (∀ i, i < k → ((runExec O n k Hl l).known i = (runExec O n k Hl l').known i)) ∧
    (runExec O n k Hl l).complete = (runExec O n k Hl l').complete := by
  obtain ⟨-, -, c1, k1⟩ := C04_eq O n k Hl hwf l hl
  obtain ⟨-, -, c2, k2⟩ := C04_eq O n k Hl hwf l' hl'
  have hc := inClosure_congr (Hf Hl) hset
  exact ⟨fun i hi => Bool.eq_iff_iff.2 ((k1 i hi).trans ((hc i).trans (k2 i hi).symm)),
    Bool.eq_iff_iff.2 (c1.trans ((forall_congr' fun i => imp_congr_right fun _ => hc i).trans c2.symm))⟩

open Api

/-- a sequence of `of_decode_with_new_symbol` calls on the session model (ESI, value, index of the application buffer) -/
def recvAll (IO : SymIO σ) (p : Params) : Session σ → List (Nat × σ × Nat) → Session σ
  | s, [] => s
  | s, x :: t => recvAll IO p (ldpcRecv IO s p x.1 x.2.1 x.2.2).2.1 t

theorem recvAll_it (IO : SymIO σ) (p : Params) (l : List (Nat × σ × Nat)) : ∀ (s : Session σ) (it : IT.St σ), s.it = some it →
    s.mlConsumed = false →
    (recvAll IO p s l).it = some (l.foldl (fun t x => IT.submit (IO.ops 3 p.m p.len) p.n t x.1 x.2.1) it) ∧
    (recvAll IO p s l).mlConsumed = false := by
  induction l with
  | nil => exact fun s it h hc => ⟨h, hc⟩
  | cons x t ih =>
    intro s it h hc
    rw [recvAll, ldpcRecv_eq IO s p x.1 x.2.2 x.2.1 h, List.foldl_cons, ← recvIt_of_not_consumed hc]
    exact ih _ _ rfl hc

/-- **C04 for sessions.**  A decoder session whose iterative decoder was started from the initial state of a well-formed matrix
(`pre` = the pretended reception of the zero last repair symbol by an even-N1 decoder, or nothing) and then driven by any sequence of
`of_decode_with_new_symbol` calls: the symbols it knows are exactly the peeling closure of what was submitted, and completion is
reported exactly when the closure contains all k source symbols.  With `C05_matrix_wf` the well-formedness hypothesis holds for every
accepted LDPC-Staircase configuration. -/
theorem C04_session (IO : SymIO σ) (p : Params) (Hl : List (List Nat)) (hwf : wfCheck p.n Hl = true) (pre : List (Nat × σ))
    (s : Session σ) (hit : s.it = some (runExec (IO.ops 3 p.m p.len) p.n p.k Hl pre)) (hcons : s.mlConsumed = false)
    (l : List (Nat × σ × Nat)) (hpre : ∀ x ∈ pre, x.1 < p.n) (hl : ∀ x ∈ l, x.1 < p.n) :
    ∃ it', (recvAll IO p s l).it = some it' ∧
      (it'.complete = true ↔ ∀ i, i < p.k → InClosure (Hf Hl) (fun e => e ∈ (pre.map (·.1)) ++ (l.map (·.1))) i) ∧
      (∀ i, i < p.k → (it'.known i = true ↔ InClosure (Hf Hl) (fun e => e ∈ (pre.map (·.1)) ++ (l.map (·.1))) i)) := by
  obtain ⟨h1, _⟩ := recvAll_it IO p l s _ hit hcons
  have hrun : l.foldl (fun t x => IT.submit (IO.ops 3 p.m p.len) p.n t x.1 x.2.1) (runExec (IO.ops 3 p.m p.len) p.n p.k Hl pre)
      = runExec (IO.ops 3 p.m p.len) p.n p.k Hl (pre ++ l.map fun x => (x.1, x.2.1)) := by
    unfold runExec
    rw [List.foldl_append, List.foldl_map]
  refine ⟨_, h1, ?_⟩
  rw [hrun]
  have key := C04_eq (IO.ops 3 p.m p.len) p.n p.k Hl hwf (pre ++ l.map fun x => (x.1, x.2.1))
    (List.forall_mem_append.2 ⟨hpre, List.forall_mem_map.2 hl⟩)
  simp only [List.map_append, List.map_map] at key
  exact ⟨key.2.2.1, key.2.2.2⟩

-- non-vacuity: the RFC 5170 matrix for k = 4, n = 8, N1 = 3, seed 7 (the one the smoke test prints) is well-formed
example : wfCheck 8 [[0, 1, 2, 4], [0, 2, 3, 4, 5], [1, 2, 3, 5, 6], [0, 1, 3, 6, 7]] = true := by decide
