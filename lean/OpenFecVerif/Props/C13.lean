import OpenFecVerif.Model.Kernels
/-!
# C13 — symbol kernels are exact for every length, operand count and alignment

`Kern.*` are the kernel models with the code's loop structure (8-byte words / optional 4-byte step / byte tail;
16-byte rounds / byte tail; operands in groups of 8, 4, 2, 1); `ofmodel` runs them against the real kernels for
all sizes 0..80 (+ large ones), operand counts 0..20, 8×8 alignments and every field constant.  The theorems say
that this loop structure touches each of the first `size` bytes exactly once and nothing else, for EVERY size and
operand count, so that each kernel equals its byte-wise definition.  (Alignment does not occur in the model: the
model is a function of byte values only; that the C code is too is what the alignment sweep of the correspondence checks.)
-/
namespace Kern

theorem range_append_range' (m n : Nat) : List.range m ++ List.range' m n = List.range (m + n) := by
  rw [List.range'_eq_map_range, ← List.range_add]

/-- the XOR kernels' loops (64-bit words, optional 32-bit step, byte tail) cover offsets 0 … size−1, each once, in order -/
theorem C13_covered_eq (size : Nat) : covered size = List.range size := by
  simp only [covered, ← List.range_eq_range', range_append_range']
  congr 1
  -- 8·⌊size/8⌋ + (4 if bit 2 of size is set) + size mod 4 = size; `2·⌊size/8⌋ < ⌊size/4⌋` is the code's test for that bit
  split <;> omega

/-- the multiply-accumulate kernels' loops (16-byte rounds, byte tail) cover offsets 0 … size−1, each once, in order -/
theorem C13_covered16_eq (size : Nat) : covered16 size = List.range size := by
  rw [covered16, ← List.range_eq_range', range_append_range', Nat.div_add_mod]

/-- the operand loop (8, 4, 2, 1 at a time) consumes every operand exactly once -/
theorem C13_groups_sum (count : Nat) : (groups count).sum = count := by
  unfold groups
  simp only [List.sum_append, List.sum_replicate_nat]
  omega

theorem onOffsets_range (size : Nat) (f : Nat → Nat → Nat) (buf : List Nat) :
    onOffsets (List.range size) f buf = buf.zipIdx.map fun p => if p.2 < size then f p.2 p.1 else p.1 := by
  unfold onOffsets
  apply List.map_congr_left
  intro p _
  simp only [List.contains_eq_mem, List.mem_range, decide_eq_true_eq]

/-- of_add_to_symbol: out[i] = to[i] ⊕ from[i] for i < size, out[i] = to[i] beyond — for every size -/
theorem C13_xor1_spec (size : Nat) (to frm : List Nat) :
    xor1 size to frm = to.zipIdx.map fun p => if p.2 < size then p.1 ^^^ frm.getD p.2 0 else p.1 := by
  unfold xor1; rw [C13_covered_eq, onOffsets_range]

/-- multiply-accumulate by a GF(2^8) constant: out[i] = dst[i] ⊕ c·src[i] for i < size, untouched beyond -/
theorem C13_addmul8_spec (size c : Nat) (dst src : List Nat) :
    addmul8 size c dst src = dst.zipIdx.map fun p => if p.2 < size then p.1 ^^^ GF.mul8 c (src.getD p.2 0) else p.1 := by
  unfold addmul8; rw [C13_covered16_eq, onOffsets_range]

/-- packed GF(2^4): both nibbles of every byte are multiplied by c -/
theorem C13_addmul4c_spec (size c : Nat) (dst src : List Nat) :
    addmul4c size c dst src = dst.zipIdx.map fun p =>
      if p.2 < size then p.1 ^^^ (((GF.mul4 c (src.getD p.2 0 >>> 4)) <<< 4) ||| GF.mul4 c (src.getD p.2 0 &&& 15)) else p.1 := by
  unfold addmul4c; rw [C13_covered16_eq, onOffsets_range]; rfl

theorem C13_addmul4_spec (size c : Nat) (dst src : List Nat) :
    addmul4 size c dst src = dst.zipIdx.map fun p => if p.2 < size then p.1 ^^^ GF.mul4 c (src.getD p.2 0) else p.1 := by
  unfold addmul4; rw [C13_covered16_eq, onOffsets_range]

/-- non-interference: the result depends only on the first `size` bytes of the source operand, and keeps the length of the destination -/
theorem C13_noninterference (size : Nat) (to frm frm' : List Nat) (h : ∀ i, i < size → frm.getD i 0 = frm'.getD i 0) :
    xor1 size to frm = xor1 size to frm' ∧ (xor1 size to frm).length = to.length := by
  rw [C13_xor1_spec, C13_xor1_spec]
  constructor
  · apply List.map_congr_left
    intro p _
    split
    · next hp => rw [h p.2 hp]
    · rfl
  · simp only [List.length_map, List.length_zipIdx]

end Kern
