import OpenFecVerif.Props.C03
import OpenFecVerif.Proofs.MLComplete
/-!
# C03 at the level of the session and the code: `of_finish_decoding` succeeds iff the source symbols are determined

`Props/C03.lean` states what the solver does on a system.  This file connects the system that `of_finish_decoding` builds
(`Api.ldpcFinish`: one unknown per unknown symbol, one equation per parity-check equation that still has an unknown member)
with the code itself:

* `MLComplete.IsCodeword H z` — the 0/1 word `z` satisfies every parity-check equation of `H`;
* `MLComplete.SourcesDetermined H k n known` — every codeword that vanishes on the known symbols vanishes on the k source symbols,
  i.e. two blocks of the code that agree on the known symbols have the same source symbols.

Hypotheses: `WFH` (no repeated entry in an equation, entries below n — what `wfCheck` evaluates on every matrix), the staircase shape
(`Api.stairCheck`, evaluated by the model on every matrix it builds; it is what makes "sources determined" imply "everything determined"),
and that no Gaussian elimination has consumed the matrix yet.
-/
open MLComplete

open Gauss MLSound Api in
/-- **C03.** `of_finish_decoding` on the session model returns OK **iff** the source symbols are uniquely determined by the symbols the
decoder knows and the parity-check equations; otherwise it returns FAILURE (`C10`) and decoding stays incomplete.  The statement does
not mention symbol values, arrival order or submission API: the outcome depends on the set of known symbols only. -/
theorem C03_finish_ok_iff_determined {σ : Type} (IO : Api.SymIO σ) (s : Api.Session σ) (p : Api.Params) (it : IT.St σ)
    (hit : s.it = some it) (hcons : s.mlConsumed = false) (hwf : WFH s.H (p.k + p.r)) (hstair : Api.stairCheck p.k s.H = true)
    (hHlen : s.H.length = p.r) (hk : it.k = p.k) :
    (Api.ldpcFinish IO s p).1 = Api.Status.ok ↔ SourcesDetermined s.H p.k (p.k + p.r) it.known := by
  have hdet : SourcesDetermined s.H p.k (p.k + p.r) it.known ↔
      (solve (IO.ops 3 p.m p.len) (unknowns it.known p.k p.r).length (finSystem IO s p it)).isSome = true := by
    refine Iff.trans ?_ ((solve_isSome_iff (IO.ops 3 p.m p.len) _ _ (system_wide _ it.sym.get _ s.H)).trans
      (kernel_trivial_iff (IO.ops 3 p.m p.len) it.sym.get p.k p.r s.H hwf)).symm
    -- with a staircase a codeword that vanishes on the sources vanishes everywhere
    exact ⟨fun hdet z hcw hz => hHlen ▸ ITSound.stair_zero boolOps_lawful (stairCheck_iff.mp hstair) z
      ((List.forall_getD_nil_iff _).mpr hcw) (hdet z hcw hz), fun h z hcw hz i hi => h z hcw hz i (by omega)⟩
  obtain ⟨st, s', it', ev, h, -, -, -, hc⟩ := ldpcFinish_cases IO s p it hit
  rw [h]
  cases hc with
  | complete hc =>
    refine iff_of_true rfl fun z _ hz i hi => hz i (by omega) ?_
    exact List.all_eq_true.mp hc i (List.mem_range.mpr (hk ▸ hi))
  | refused _ hfail =>
    rw [hdet, hfail.resolve_left (by simp [hcons])]
    simp
  | solved xs _ _ hxs =>
    rw [hdet, hxs]
    simp

/-- … and "what the decoder knows" can be replaced by "what was received": streaming decoding knows exactly symbols of the peeling
closure of the received set (C04), and a codeword that vanishes on a set vanishes on its peeling closure. -/
theorem C03_determined_by_received (Hl : List (List Nat)) (hnd : ∀ row ∈ Hl, row.Nodup) (k n : Nat) (R : Nat → Prop) (known : Nat → Bool)
    (hRn : ∀ e, R e → e < n) (hsub : ∀ e, R e → known e = true)
    (hcl : ∀ e, known e = true → ITAbs.InClosure (ITRefine.Hf Hl) R e) :
    SourcesDetermined Hl k n known ↔ ∀ z, IsCodeword Hl z → (∀ e, R e → z e = false) → ∀ i, i < k → z i = false := by
  constructor
  · intro hdet z hcw hz i hi
    apply hdet z hcw _ i hi
    intro e _ hke
    exact hcl e hke (fun x => z x = false) hz (zero_set_peelClosed Hl hnd z hcw)
  · intro h z hcw hz i hi
    exact h z hcw (fun e he => hz e (hRn e he) (hsub e he)) i hi

/-- the system handed to the solver has a non-trivial kernel whenever it has fewer equations than unknowns: refusing to start the
elimination then (as the C code does) loses nothing -/
theorem C03_few_equations_undetermined (q : Nat) (B : List (Gauss.Row Bool)) (hw : Gauss.Wide q B) (hlen : B.length < q)
    (hz : ∀ r ∈ B, r.2 = false) :
    ∃ v : List Bool, v.length = q ∧ v ≠ List.replicate q false ∧ ∀ r ∈ B, Gauss.dot Gauss.boolOps r.1 v = false :=
  Gauss.solve_eq_none_kernel Gauss.boolOps q B hw (Gauss.solve_eq_none_of_lt _ hlen)

-- non-vacuity: the staircase and well-formedness hypotheses hold for the RFC 5170 matrix k = 4, n = 8, N1 = 3, seed 7
example : Api.stairCheck 4 [[0, 1, 2, 4], [0, 2, 3, 4, 5], [1, 2, 3, 5, 6], [0, 1, 3, 6, 7]] = true := by decide
