import OpenFecVerif.Proofs.Conv
import OpenFecVerif.Proofs.Popcount
import OpenFecVerif.Gen.Tab_of_hw8table
import OpenFecVerif.Gen.Macros
import OpenFecVerif.Model.GF
import OpenFecVerif.Props.C03
/-!
# C18 — dense GF(2) matrix and linear solver agree with exact bit-matrix algebra

`Dense.D` (Model/Dense.lean) is the packed-word representation the library uses (32-bit words, row oriented);
`Dense.bit m r c` is its bit-matrix reading.  `Dense.WF` is the representation invariant (row length, word range,
padding bits zero).  The theorems say that each word-level operation is the bit-matrix operation, for every
dimension (31/32/33 columns are ordinary instances).  The popcount helpers are translated from
of_hamming_weight.c on every run (`Gen.of_hweight32_naive`, `Gen.of_popcount_3`, `Gen.of_hweight32`).
The solver theorems are those of Props/C03.lean (`C03_success_is_rank_test`, `C03_solve_sound`, `C03_solve_unique`,
`C03_solve_iff_full_rank`); the property's check audits them through this module, hence the import.
-/
namespace Dense

theorem C18_alloc {nr nc : Nat} {m : D} (h : alloc nr nc = some m) :
    WF m ∧ m.nr = nr ∧ m.nc = nc ∧ ∀ r c, bit m r c = false := by
  unfold alloc at h
  split at h
  · cases h
  · cases h; exact ⟨wf_zeros (shift5 _) rfl, rfl, rfl, bit_zeros rfl⟩

/-- get returns the bit; set (in range) changes exactly that bit, out of range it is refused and changes nothing -/
theorem C18_get_set {m : D} (h : WF m) (r c v : Nat) :
    (∀ r' c', get m r' c' = (bit m r' c').toNat) ∧
    (r < m.nr → c < m.nc → ∀ r' c', bit (set' m r c v) r' c' = if r' = r ∧ c' = c then decide (v ≠ 0) else bit m r' c') ∧
    ((r ≥ m.nr ∨ c ≥ m.nc) → set m r c v = (m, false)) ∧ WF (set' m r c v) :=
  ⟨fun r' c' => get_eq m r' c', fun hr hc r' c' => bit_set h hr hc v r' c', set_out_of_range m r c v, set_wf h r c v⟩

/-- of_mod2dense_flip: the addressed bit is inverted and returned, the rest is unchanged -/
theorem C18_get_flip {m : D} (h : WF m) {r c : Nat} (hr : r < m.nr) (hc : c < m.nc) (r' c' : Nat) :
    bit (flip m r c).1 r' c' = (if r' = r ∧ c' = c then !bit m r c else bit m r' c') ∧
    (flip m r c).2 = some (!bit m r c).toNat := by
  unfold flip
  rw [if_neg (by omega)]
  constructor
  · show bit (set' m r c (1 ^^^ get m r c)) r' c' = _
    rw [bit_set h hr hc, get_eq]; cases bit m r c <;> rfl
  · show some (1 ^^^ get m r c) = _
    rw [get_eq]; cases bit m r c <;> rfl

theorem C18_get_clear {m : D} (h : WF m) : WF (clear m) ∧ ∀ r c, bit (clear m) r c = false := clear_wf h

/-- of_mod2dense_xor_rows: row `to` becomes the bitwise sum of rows `to` and `from` -/
theorem C18_get_xorRows {m : D} (h : WF m) (f t : Nat) :
    WF (xorRows m f t) ∧ ∀ r' c', bit (xorRows m f t) r' c' = if r' = t then (bit m t c' != bit m f c') else bit m r' c' := by
  refine ⟨?_, fun r' c' => ?_⟩
  · have hl := (h.len t).trans (h.len f).symm
    refine wf_setRow h t ?_ (fun w hw => ?_) (fun c hc => ?_)
    · rw [List.length_zipWith, h.len t, h.len f, Nat.min_self]
    · obtain ⟨k, hk, rfl⟩ := List.getElem_of_mem hw
      rw [List.getElem_zipWith, W_eq]
      exact Nat.xor_lt_two_pow (W_eq ▸ h.lt t _ (List.getElem_mem _)) (W_eq ▸ h.lt f _ (List.getElem_mem _))
    · rw [rbit_xor hl, ← bit_def, ← bit_def, h.pad t c hc, h.pad f c hc]; rfl
  · unfold xorRows
    rw [bit_setRow, rbit_xor ((h.len t).trans (h.len f).symm), bit_def m t, bit_def m f]

/-- of_mod2dense_copy into a destination that is large enough: the source, padded with zeros; a smaller destination is
left unchanged -/
theorem C18_get_copy {m r : D} (hm : WF m) :
    ((m.nr ≤ r.nr ∧ m.nc ≤ r.nc) → ∀ i j, i < r.nr → bit (copy m r) i j = if i < m.nr ∧ j < m.nc then bit m i j else false) ∧
    ((m.nr > r.nr ∨ m.nc > r.nc) → copy m r = r) := by
  refine ⟨fun hfit i j hi => ?_, fun h => by unfold copy; simp [h]⟩
  unfold copy
  rw [if_neg (by omega), bit_def, row]
  simp only [foldl_set_get, hi, if_true]
  by_cases him : i < m.nr
  · rw [if_pos him, rbit_widen hm]
    exact ListHelper.ite_iff (by omega) _ _
  · rw [if_neg him, if_neg (fun e => him e.1), rbit_zeros]

/-- of_mod2dense_copyrows (as repaired): row i of the destination is row rows[i] of the source -/
theorem C18_get_copyrows {m r : D} (hm : WF m) (hfit : m.nc ≤ r.nc) (idx : List Nat)
    (hv : ∀ i, i < r.nr → idx.getD i 0 < m.nr) (i j : Nat) :
    bit (copyrows m r idx) i j = if i < r.nr ∧ j < m.nc then bit m (idx.getD i 0) j else false := by
  unfold copyrows
  rw [if_neg (by omega)]
  -- the flag stays down; after k rounds the rows below k are written, the others still clear
  refine (ListHelper.foldl_range_inv _ (fun k (acc : D × Bool) => acc.2 = false ∧ ∀ i j, bit acc.1 i j =
      if i < k ∧ j < m.nc then bit m (idx.getD i 0) j else false) _ _
      ⟨rfl, fun i j => by rw [bit_clear, if_neg fun e => Nat.not_lt_zero _ e.1]⟩ ?_).2 i j
  intro k acc hk ⟨h2, hb⟩
  simp only [h2, Bool.false_eq_true, if_false, if_neg (Nat.not_le.mpr (hv k hk))]
  refine ⟨trivial, fun i j => ?_⟩
  rw [bit_setRow, rbit_widen hm, hb]
  by_cases hik : i = k
  · subst hik; rw [if_pos rfl]; exact ListHelper.ite_iff (by omega) _ _
  · rw [if_neg hik]; exact ListHelper.ite_iff (by omega) _ _

theorem C18_rowIsEmpty_iff {m : D} (h : WF m) (i : Nat) : rowIsEmpty m i = true ↔ ∀ c, bit m i c = false := by
  unfold rowIsEmpty
  simp only [List.all_eq_true, beq_iff_eq, bit_def]
  constructor
  · intro hall c
    rw [rbit, forall_getD (P := (· = 0)) rfl hall]
    exact Nat.zero_testBit _
  · intro hb w hw
    obtain ⟨k, hk, rfl⟩ := List.getElem_of_mem hw
    apply Nat.eq_of_testBit_eq
    intro b
    rw [Nat.zero_testBit]
    by_cases hb32 : b < 32
    · rw [← rbit_getElem hk b hb32]; exact hb _
    · -- the bits from 32 on are zero because the word is below 2^32
      have hlt := h.lt i _ hw
      rw [W_eq] at hlt
      exact Nat.testBit_lt_two_pow (Nat.lt_of_lt_of_le hlt (Nat.pow_le_pow_right (by decide) (by omega)))

theorem naive_fold (w n : Nat) (hn : n ≤ 32) :
    (List.range' 0 n).foldl (fun (st : Nat × Nat) (_ : Nat) => ((st.1 + (st.2 &&& 1)) % 4294967296, st.2 >>> 1)) (0, w)
      = (((List.range n).filter fun i => w.testBit i).length, w >>> n) := by
  rw [← List.range_eq_range']
  refine ListHelper.foldl_range_inv _ (fun k st => st = (((List.range k).filter fun i => w.testBit i).length, w >>> k)) n _ rfl ?_
  rintro k _ hk rfl
  have hle := ListHelper.count_range_le (fun i => w.testBit i) k
  have hb : (w >>> k) &&& 1 = (w.testBit k).toNat := getbit_eq w k
  have hlt : (w.testBit k).toNat ≤ 1 := Bool.toNat_le _
  dsimp only
  rw [hb, ListHelper.count_range_succ, ← Nat.shiftRight_add, Nat.mod_eq_of_lt (by omega)]

/-- of_hweight32_naive (as repaired) counts the one bits of a 32-bit word -/
theorem C18_hweight32_naive (w : Nat) : Gen.of_hweight32_naive w = popcount w := by
  unfold Gen.of_hweight32_naive popcount
  simp only [naive_fold w 32 (Nat.le_refl _)]

/-- `of_hweight32` (SWAR, regenerated from the C source each run) counts the one bits of **every** 32-bit word
(`Proofs/Popcount.lean`: the masking steps act on each byte lane by itself; what they do to one byte is evaluated) -/
theorem C18_hweight32 (w : Nat) (hw : w < 2 ^ 32) : Gen.of_hweight32 w = popcount w :=
  Pop.hweight32_eq w hw

/-- `of_popcount_3` (SWAR with the final multiplication, regenerated each run) counts the one bits of **every** 64-bit
word; its `INT32` result is the non-negative count -/
theorem C18_popcount_3 (x : Nat) (hx : x < 2 ^ 64) : Gen.of_popcount_3 x = ((Pop.popcount64 x : Nat) : Int) :=
  Pop.popcount3_eq x hx

/-- the 64-bit count is the sum of the counts of the two 32-bit words it is read from (`of_hweight_array` reads the
row two words at a time) -/
theorem C18_popcount64_words (x : Nat) : Pop.popcount64 x = popcount (x % 2 ^ 32) + popcount (x / 2 ^ 32 % 2 ^ 32) :=
  Pop.popcount64_words x

/-- the byte table `of_hw8table` (regenerated each run) holds the count of every byte -/
theorem C18_hw8table : ∀ b, b < 256 → GF.entry 8 Gen.of_hw8table 0 b = Pop.pc8 b := by decide +kernel

/-- `of_hweight32_table`: the sum of the four table entries of the bytes of a word is its count (any byte order) -/
theorem C18_hweight32_table (w : Nat) :
    GF.entry 8 Gen.of_hw8table 0 (w % 256) + GF.entry 8 Gen.of_hw8table 0 (w / 256 % 256)
      + GF.entry 8 Gen.of_hw8table 0 (w / 65536 % 256) + GF.entry 8 Gen.of_hw8table 0 (w / 16777216 % 256) = popcount w := by
  rw [C18_hw8table _ (Nat.mod_lt _ (by decide)), C18_hw8table _ (Nat.mod_lt _ (by decide)),
    C18_hw8table _ (Nat.mod_lt _ (by decide)), C18_hw8table _ (Nat.mod_lt _ (by decide)), Pop.popcount_bytes]

/-! The word-level primitives of the dense model are the bit macros of of_matrix_dense.h, translated on every run through
harness/wrappers.c. -/
theorem C18_macro_getbit (w i : Nat) : Gen.vm_getbit w i = getbit w i := rfl
theorem C18_macro_index (c : Nat) : Gen.vm_word_index c = c >>> 5 ∧ Gen.vm_bit_index c = c &&& 31 := ⟨rfl, rfl⟩

/-- `1 << i` and `~(1 << i)` as the translator renders them (a signed `int` shifted, then converted to 32 bits unsigned): they are
the masks `1 <<< i` and its complement in a word, for the 32 shift counts that occur -/
theorem shl_facts : ∀ i, i < 32 →
    Int.toNat ((CSem.toSigned 32 (((Int.toNat ((1 : Int) % 4294967296)) <<< i) % 4294967296)) % 4294967296) = 1 <<< i ∧
    Int.toNat ((- (CSem.toSigned 32 (((Int.toNat ((1 : Int) % 4294967296)) <<< i) % 4294967296)) - 1) % 4294967296)
      = W - 1 - (1 <<< i) % W ∧ (1 <<< i) < W := by decide +kernel

theorem C18_macro_setbit1 (w i : Nat) (hw : w < W) (hi : i < 32) : Gen.vm_setbit1 w i = setbit1 w i := by
  unfold Gen.vm_setbit1 setbit1
  rw [(shl_facts i hi).1]
  exact (Nat.mod_eq_of_lt (Nat.or_lt_two_pow (n := 32) hw (shl_facts i hi).2.2)).symm

theorem C18_macro_setbit0 (w i : Nat) (hi : i < 32) : Gen.vm_setbit0 w i = setbit0 w i := by
  unfold Gen.vm_setbit0 setbit0
  rw [(shl_facts i hi).2.1]

theorem C18_macro_words_for (nc : Nat) (h : nc + 32 < W) : Gen.vm_words_for nc = (nc + 31) >>> 5 := by
  unfold Gen.vm_words_for
  unfold W at h
  have : ((nc + 32) % 4294967296 + 4294967296 - 1) % 4294967296 = nc + 31 := by omega
  rw [this]

/-- row and column weights count the one bits of the bit-matrix reading -/
theorem C18_weights (m : D) (i j : Nat) :
    rowWeight m i = ((List.range m.nc).filter fun c => bit m i c).length ∧
    colWeight m j = ((List.range m.nr).filter fun r => bit m r j).length := by
  simp only [rowWeight, colWeight, decide_get, and_self]

/-- of_mod2dense_row_weight_ignore_first (which hands the tail of the row to `of_hweight_array`): the routine skips whole 32-bit words,
so it returns the number of one bits of row i in the columns from 32·⌊nb/32⌋ on — for nb a multiple of 32, the columns from nb on -/
theorem C18_row_weight_ignore_first {m : D} (h : WF m) (i nb : Nat) :
    rowWeightIgnoreFirst m i nb = ((List.range m.nc).filter (fun j => decide (32 * (nb / 32) ≤ j) && bit m i j)).length := by
  unfold rowWeightIgnoreFirst
  rw [shift5]
  generalize nb / 32 = o
  rw [words_count, List.length_drop, h.len i, ListHelper.count_range_ge]
  have hq : rbit ((row m i).drop o) = fun x => bit m i (32 * o + x) := funext fun x => by
    rw [bit_def, rbit, rbit, List.getElem?_drop, Nat.mul_add_div (by decide), Nat.mul_add_mod]
  rw [hq]
  -- the words reach up to column 32·nw; the columns from nc on are padding
  obtain ⟨d, hd⟩ := Nat.exists_eq_add_of_le (show m.nc - 32 * o ≤ 32 * (m.nw - o) by have := h.nw_eq; omega)
  have hz : ((List.range d).filter fun x => bit m i (32 * o + (m.nc - 32 * o + x))) = [] :=
    List.filter_eq_nil_iff.mpr fun x _ => by rw [h.pad i _ (by omega)]; exact Bool.false_ne_true
  rw [hd, ListHelper.count_range_add, hz, List.length_nil, Nat.add_zero]

/-- of_mod2dense_copycols: column c of the destination, in the rows of the source, becomes column `cols[c]` of the source; everything
else of the destination is left as it was (the routine does not clear it); a destination with fewer rows is refused unchanged -/
theorem C18_get_copycols {m r : D} (hr : WF r) (idx : List Nat) :
    (m.nr ≤ r.nr → WF (copycols m r idx) ∧ ∀ i c, bit (copycols m r idx) i c
      = if c < r.nc ∧ i < m.nr then decide (get m i (idx.getD c 0) ≠ 0) else bit r i c) ∧
    (m.nr > r.nr → copycols m r idx = r) := by
  refine ⟨fun hfit => ?_, fun h => by unfold copycols; simp [h]⟩
  have e : copycols m r idx = setCells (fun i j => get m i (idx.getD j 0))
      ((List.range r.nc).flatMap fun j => (List.range m.nr).map fun i => (i, j)) r := by
    unfold copycols; rw [if_neg (by omega)]; exact ListHelper.foldl_range_range _ _ _ _
  rw [e]
  refine ⟨setCells_wf _ _ hr, fun i c => ?_⟩
  rw [bit_setCells _ _ hr]
  exact ListHelper.ite_iff (by rw [ListHelper.mem_cells]; omega) _ _

/-- of_mod2sparse_to_dense: when the sparse matrix fits, the dense matrix holds exactly its entries; otherwise it is left unchanged -/
theorem C18_to_dense {s : Sparse.M} {r : D} (hs : Sparse.Inv s) (hr : WF r) :
    ((s.nr ≤ r.nr ∧ s.nc ≤ r.nc) → WF (ofSparse s r) ∧ ∀ i j, bit (ofSparse s r) i j = true ↔ Sparse.Mem s i j) ∧
    ((s.nr > r.nr ∨ s.nc > r.nc) → ofSparse s r = r) :=
  ⟨fun hfit => bit_ofSparse hs hr hfit, fun h => by unfold ofSparse; simp [h]⟩

/-- of_mod2dense_to_sparse: when the dense matrix fits, the sparse matrix holds exactly the one bits (whatever it held before) and meets
the sparse representation invariant; otherwise it is left unchanged -/
theorem C18_to_sparse {m : D} {r : Sparse.M} :
    ((m.nr ≤ r.nr ∧ m.nc ≤ r.nc) → Sparse.Inv (toSparse m r) ∧
        ∀ i j, Sparse.Mem (toSparse m r) i j ↔ (i < m.nr ∧ j < m.nc ∧ bit m i j = true)) ∧
    ((m.nr > r.nr ∨ m.nc > r.nc) → toSparse m r = r) :=
  ⟨fun hfit => mem_toSparse hfit, fun h => by unfold toSparse; simp [h]⟩

/-- **conversion round trip**: sparse → dense → sparse gives back exactly the entries of the original -/
theorem C18_conversion_roundtrip {s r' : Sparse.M} {d : D} (hs : Sparse.Inv s) (hd : WF d)
    (hfit : s.nr ≤ d.nr ∧ s.nc ≤ d.nc) (hfit' : (ofSparse s d).nr ≤ r'.nr ∧ (ofSparse s d).nc ≤ r'.nc) (i j : Nat) :
    Sparse.Mem (toSparse (ofSparse s d) r') i j ↔ Sparse.Mem s i j := by
  rw [(mem_toSparse hfit').2, (bit_ofSparse hs hd hfit).2, (ofSparse_dims s d).1, (ofSparse_dims s d).2]
  exact ⟨fun h => h.2.2, fun h => have := hs.bound i j h; ⟨by omega, by omega, h⟩⟩

end Dense

-- non-vacuity: a well-formed 2 x 33 matrix (two words per row) with a bit in the second word
example : ∃ m, Dense.alloc 2 33 = some m ∧ Dense.bit (Dense.set' m 1 32 1) 1 32 = true ∧ (Dense.set' m 1 32 1).nw = 2 := by
  refine ⟨_, rfl, ?_, ?_⟩ <;> decide

-- non-vacuity of the popcount statements: an all-ones word and a word with bits in every byte lane
example : Gen.of_hweight32 0xFFFFFFFF = 32 ∧ Gen.of_popcount_3 0x8040201008040201 = 8 := by decide
