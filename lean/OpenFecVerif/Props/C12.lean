import OpenFecVerif.Proofs.RfcWF
import OpenFecVerif.Proofs.Session
/-!
# C12 — sessions are independent of each other

`Api.World` is the process: the global PRNG state `of_seed` and the table of sessions.  `Api.step` executes one API
call.  The theorems: a call on one session leaves every other session as it was; what it returns and what it does to
its own session do not depend on anything else in the world — not on the other sessions and not on the global PRNG
state (valid LDPC parameters overwrite that state before using it, C05).  Hence the observations of a session in any
interleaving with calls on other sessions are the observations of its calls run alone (`C12_projection`).
-/
open Api
variable {σ : Type}

/-- the session an operation addresses -/
def Api.sidOf : Op → Option Nat
  | .case_ | .align | .nullses => none
  | .new sid _ _ | .params sid _ | .release sid | .unconf sid | .cb sid _ | .ctrl sid _ | .payload sid _ _ | .build sid _ _
  | .recv sid _ _ | .avail sid _ | .availnull sid | .finish sid | .complete sid | .sources sid | .matrix sid | .cwdump sid => some sid

theorem create_indep_of_limits (g g' : Nat) {p : Params} (h : withinLimits 3 p = true) :
    Rfc5170.create CSem.rne53 g p.k p.r p.N1 p.seed.toNat = Rfc5170.create CSem.rne53 g' p.k p.r p.N1 p.seed.toNat :=
  have ⟨_, _, _, hN, hseed⟩ := withinLimits_ldpc h
  RfcWF.create_indep hseed hN g g' p.k

/-- `of_set_fec_parameters`: status and resulting session do not depend on the global PRNG state -/
theorem setParams_local (IO : SymIO σ) (g g' : Nat) (s : Session σ) (p : Params) :
    (setParams IO g s p).2 = (setParams IO g' s p).2 := by
  unfold setParams
  split
  · unfold setParams2D
    cases withinLimits2D p <;> cases Parity2D.rows p.k p.r <;> rfl
  · unfold setParamsStd
    -- the PRNG state is read only by the LDPC construction, which is reached only with parameters inside the limits
    cases hw : withinLimits s.codec p
    · rfl
    cases h3 : s.codec == 3
    · rfl
    simp only [Bool.not_true, Bool.false_eq_true, if_false, if_true]
    rw [create_indep_of_limits g g' (beq_iff_eq.mp h3 ▸ hw)]

/-- What session `j` sees of a call's result: the answer and its own slot.  `step` is a tree of `if`s over the session with the
world only at the leaves.  Splitting that tree is dear (`repeat' split` also takes apart the `if`s inside the answers, which no
goal here needs), so `step_footprint` pushes `look` down to the leaves instead (`look_ite`), where the world drops out
(`look_mk`, `TMap.get_set_same`, `TMap.get_set_ne`). -/
def Api.look (j : Nat) (r : World σ × String) : String × Option (Session σ) := (r.2, r.1.ses.get j)

theorem look_ite (j : Nat) (c : Prop) [Decidable c] (a b : World σ × String) :
    look j (if c then a else b) = if c then look j a else look j b := apply_ite _ _ _ _

-- not `:= rfl`: `simp` would then apply it by `dsimp`, and `step_footprint` costs four times as much to check
theorem look_mk (j : Nat) (w : World σ) (out : String) : look j (w, out) = (out, w.ses.get j) := by unfold look; rfl

/-- The footprint of a call is its session's slot (and the PRNG state): the answer and the slot's new content depend on the
slot's old content only — not on the other sessions, not on the PRNG state — and every other slot is left as it was. -/
theorem step_footprint (IO : SymIO σ) (w w' : World σ) (op : Op) (sid : Nat) (hs : sidOf op = some sid)
    (heq : w'.ses.get sid = w.ses.get sid) (j : Nat) (hj : j ≠ sid) :
    look sid (step IO w op) = look sid (step IO w' op) ∧ (look j (step IO w op)).2 = w.ses.get j := by
  cases op <;> simp only [sidOf, Option.some.injEq, reduceCtorEq] at hs <;> (have hs := hs.symm; subst hs)
  case new => simp only [step, look_ite, look_mk, TMap.get_set_same, TMap.get_set_ne _ _ hj, heq, apply_ite Prod.snd, ite_self, and_self]
  -- every other call looks its session up first and answers "bad-op" if there is none
  all_goals
    rcases hw : w.ses.get sid with _ | s
    · simp only [step, heq, hw, look_mk, and_self]
    simp only [step, heq, hw]
  case params p => simp only [look_mk, TMap.get_set_same, TMap.get_set_ne _ _ hj, setParams_local IO w.seed w'.seed s p, and_self]
  case payload =>
    split
    · simp only [look_mk, heq, and_self]
    · rename_i p _
      -- the codeword is built from the matrix, the second component of a pair whose first is the PRNG state
      simp only [look_mk, TMap.get_set_same, TMap.get_set_ne _ _ hj, apply_ite Prod.snd, and_true]
      by_cases h3 : (s.codec == 3 && withinLimits 3 p) = true
      · rw [create_indep_of_limits w.seed w'.seed (Bool.and_eq_true_iff.mp h3).2]
      · simp only [if_neg h3]
  -- these calls `match` on the session's parameters and codeword: that is split; the `if`s under it are not
  case' build | recv | avail | finish | sources | cwdump | matrix => split
  all_goals simp only [look_ite, look_mk, TMap.get_set_same, TMap.get_set_ne _ _ hj, heq, apply_ite Prod.snd, ite_self, and_self]

/-- a call on one session leaves every other session exactly as it was -/
theorem C12_other_sessions_untouched (IO : SymIO σ) (w : World σ) (op : Op) (j : Nat) (h : sidOf op ≠ some j) :
    (step IO w op).1.ses.get j = w.ses.get j := by
  cases hs : sidOf op with
  | none =>
    cases op
    case case_ | align | nullses => rfl
    all_goals cases hs
  | some sid => exact (step_footprint IO w w op sid hs rfl j fun e => h (hs.trans (congrArg some e.symm))).2

theorem step_local (IO : SymIO σ) (w w' : World σ) (op : Op) (sid : Nat) (hs : sidOf op = some sid)
    (heq : w'.ses.get sid = w.ses.get sid) :
    (step IO w op).2 = (step IO w' op).2 ∧ (step IO w op).1.ses.get sid = (step IO w' op).1.ses.get sid :=
  -- the first half of `step_footprint` does not mention `j`: any j ≠ sid serves
  Prod.mk.inj (step_footprint IO w w' op sid hs heq (sid + 1) (Nat.succ_ne_self sid)).1

theorem C12_output_local (IO : SymIO σ) (w w' : World σ) (op : Op) (sid : Nat) (hs : sidOf op = some sid)
    (heq : w'.ses.get sid = w.ses.get sid) : (step IO w op).2 = (step IO w' op).2 := (step_local IO w w' op sid hs heq).1

theorem C12_session_local (IO : SymIO σ) (w w' : World σ) (op : Op) (sid : Nat) (hs : sidOf op = some sid)
    (heq : w'.ses.get sid = w.ses.get sid) : (step IO w op).1.ses.get sid = (step IO w' op).1.ses.get sid :=
  (step_local IO w w' op sid hs heq).2

/-- run a script; every answer is tagged with the session it belongs to -/
def Api.run (IO : SymIO σ) (w : World σ) : List Op → World σ × List (Option Nat × String)
  | [] => (w, [])
  | op :: t => ((Api.run IO (step IO w op).1 t).1, (sidOf op, (step IO w op).2) :: (Api.run IO (step IO w op).1 t).2)

/-- the answers given to session `sid` -/
def Api.obsOf (sid : Nat) (os : List (Option Nat × String)) : List String := (os.filter (·.1 == some sid)).map (·.2)

/-- **Projection.**  In any script — any interleaving of calls on any number of sessions of any codec, including their
creation and release — the answers given to session `sid` are exactly the answers its own calls get when they are run
alone, from any world in which that session is in the same state (e.g. a fresh process).  Likewise for its final state. -/
theorem C12_projection (IO : SymIO σ) (sid : Nat) (ops : List Op) (w w' : World σ) (heq : w'.ses.get sid = w.ses.get sid) :
    obsOf sid (Api.run IO w ops).2 = obsOf sid (Api.run IO w' (ops.filter fun op => sidOf op == some sid)).2 ∧
    (Api.run IO w ops).1.ses.get sid = (Api.run IO w' (ops.filter fun op => sidOf op == some sid)).1.ses.get sid := by
  induction ops generalizing w w' with
  | nil => exact ⟨rfl, heq.symm⟩
  | cons op t ih =>
    by_cases hs : sidOf op = some sid
    · have hl := step_local IO w w' op sid hs heq
      simpa [Api.run, obsOf, hs, hl.1] using ih _ _ hl.2.symm
    · simpa [Api.run, obsOf, hs] using ih _ w' (heq.trans (C12_other_sessions_untouched IO w op sid hs).symm)

-- non-vacuity: an interleaving of two sessions; the projection on session 1 keeps exactly its three calls
example : ([Op.new 0 3 2, .new 1 1 2, .params 0 ⟨4, 4, 1, 0, 3, 7⟩, .params 1 ⟨2, 2, 4, 0, 0, 0⟩, .release 0, .release 1].filter
    fun op => sidOf op == some 1) = [Op.new 1 1 2, .params 1 ⟨2, 2, 4, 0, 0, 0⟩, .release 1] := by rfl
