import OpenFecVerif.Props.C09Validate
import OpenFecVerif.Props.C05
/-!
# C09 at full strength: `of_set_fec_parameters` answers OK **exactly** for the configurations inside the advertised limits

`C09_accept_iff` (Props/C09.lean) leaves one side condition for LDPC-Staircase: the matrix construction must return.  It does, for
every configuration inside the limits and every seed (`RfcTotal.create_total`; inside the limits k, n−k ≤ 50000 and N1·k < 2^30, `ldpc_bounds`).
-/
open Api
variable {σ : Type}

/-- inside the LDPC-Staircase limits the products the construction uses as bounds stay below 2^30 -/
theorem ldpc_bounds (k r N1 : Nat) (hkr : k + r ≤ 50000) (hN : N1 ≤ r) : k < 2 ^ 30 ∧ r < 2 ^ 30 ∧ N1 * k < 2 ^ 30 := by
  -- 4·N1·k ≤ 4·r·k ≤ (r + k)² ≤ 50000² < 4·2^30
  have h1 := Nat.mul_le_mul_right k hN
  have h2 := four_mul_le_sq_add r k
  have h3 := Nat.pow_le_pow_left (Nat.add_comm k r ▸ hkr) 2
  rw [Nat.mul_assoc] at h2
  omega

/-- **the LDPC-Staircase construction returns a matrix for every configuration inside the limits** (model as executed by `ofmodel`) -/
theorem C09_ldpc_construction_returns (g : Nat) (p : Params) (hw : withinLimits 3 p = true) :
    (Rfc5170.create CSem.rne53 g p.k p.r p.N1 p.seed.toNat).2.isSome = true := by
  obtain ⟨h1, h2, hn, hN, hseed⟩ := withinLimits_ldpc hw
  obtain ⟨b1, b2, b3⟩ := ldpc_bounds p.k p.r p.N1 hn hN
  exact RfcTotal.create_total C19_executable_rounding_in_standard_model g h1 h2 b1 b2 b3 hN hseed

/-- **`of_set_fec_parameters` (codecs 1, 2, 3 of the session model) returns OK if and only if the configuration is inside the advertised
limits**, and a fatal error otherwise — no side condition left -/
theorem C09_accept_iff_limits (IO : SymIO σ) (g : Nat) (s : Session σ) (p : Params) :
    ((setParamsStd IO g s p).2.1 = Status.ok ↔ withinLimits s.codec p = true) ∧
    ((setParamsStd IO g s p).2.1 ≠ Status.ok → (setParamsStd IO g s p).2.1 = Status.fatal) := by
  obtain ⟨hiff, hor⟩ := C09_accept_iff IO g s p
  exact ⟨hiff.trans (and_iff_left_of_imp fun hw h3 => C09_ldpc_construction_returns g p (h3 ▸ hw)), hor.resolve_left⟩

/-- **the 16-bit per-equation counters of the decoder cannot overflow** (`tab_nb_unknown_symbols`, `tab_nb_enc_symbols_per_equ` are
`UINT16` in the C control block; the model keeps them as unbounded naturals): in every accepted LDPC-Staircase configuration an equation
has at most n ≤ 50000 < 65536 entries -/
theorem C09_counters_fit_16_bits {σ : Type} (IO : SymIO σ) (g : Nat) (s : Session σ) (p : Params) (g' : Nat) (s' : Session σ) (hc : s.codec = 3)
    (h : setParamsStd IO g s p = (g', Status.ok, s')) : ∀ row ∈ s'.H, row.length ≤ 50000 ∧ row.length < 65536 := by
  obtain ⟨_, hwf, _⟩ := C05_configured_session IO g s p g' s' hc h
  obtain ⟨_, _, hn, _⟩ := withinLimits_ldpc (Api.setParamsStd_ok_ldpc hc h).1
  intro row hrow
  have := (hwf row hrow).1.length_le_of_subset (l₂ := List.range (p.k + p.r)) fun e he => List.mem_range.mpr ((hwf row hrow).2 e he)
  rw [List.length_range] at this
  omega

#print axioms C09_ldpc_construction_returns
#print axioms C09_accept_iff_limits
#print axioms C09_counters_fit_16_bits
