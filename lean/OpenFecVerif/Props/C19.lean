import OpenFecVerif.Proofs.Rand
import OpenFecVerif.Proofs.Rne
/-!
# C19 — the RFC 5170 pseudo-random generator is the Park-Miller minimal standard

All statements are about `Gen.of_rfc5170_rand` / `Gen.of_rfc5170_srand`, which are regenerated from
`src/lib_common/of_rand.c` by the translator on every run.  `rn` is the rounding operator of the
binary64 standard model (`RN53`).
-/
open Gen RandProofs

/-- From any state s in 1..2^31−2 the generator moves to 16807·s mod (2^31−1), which is again in 1..2^31−2. -/
theorem C19_step (rn : ℚ → ℚ) (s maxv : ℕ) (h1 : 1 ≤ s) (h2 : s ≤ 2147483646) :
    (of_rfc5170_rand rn s maxv).1 = 16807 * s % 2147483647 ∧
    1 ≤ (of_rfc5170_rand rn s maxv).1 ∧ (of_rfc5170_rand rn s maxv).1 ≤ 2147483646 := by
  rw [step_ok rn s maxv h1 h2]
  exact ⟨rfl, pm_range s h1 h2⟩

/-- The value returned is RFC 5170's reference expression on the new state, and it equals the exact
floor(s'·maxv/(2^31−1)) whenever s'·maxv < 2^53. -/
theorem C19_exact (rn : ℚ → ℚ) (h : RN53 rn) (s maxv : ℕ) (h1 : 1 ≤ s) (h2 : s ≤ 2147483646)
    (hm : maxv < 2 ^ 53) (hX : (16807 * s % 2147483647) * maxv < 2 ^ 53) :
    (of_rfc5170_rand rn s maxv).2 = (16807 * s % 2147483647) * maxv / 2147483647 := by
  rw [out_eq, step_ok rn s maxv h1 h2]
  exact scaled_exact rn h (pm s) maxv ((pm_range s h1 h2).2.trans_lt (by norm_num)) hm hX

/-- The value returned is always in 0..maxv−1. -/
theorem C19_range (rn : ℚ → ℚ) (h : RN53 rn) (s maxv : ℕ) (h1 : 1 ≤ s) (h2 : s ≤ 2147483646)
    (hm1 : 1 ≤ maxv) (hm : maxv < 2 ^ 63) :
    (of_rfc5170_rand rn s maxv).2 < maxv :=
  (RfcWF.GoodRand.of_RN53 h s maxv h1 h2 hm1 hm).1

/-- Seeding accepts exactly 1..2^31−2; any other value leaves the global state as it was. -/
theorem C19_seed_guard (g s : ℕ) :
    of_rfc5170_srand g s = if 1 ≤ s ∧ s ≤ 2147483646 then s else g := rfl

/-- The 10,000th state after seed 1 is 1043618065 (Park & Miller's check value). -/
theorem C19_10000 (rn : ℚ → ℚ) : genIter rn 10000 (of_rfc5170_srand 0 1) = 1043618065 := by
  rw [C19_seed_guard, if_pos ⟨le_rfl, by norm_num⟩, genIter_eq rn 10000 1 le_rfl (by norm_num)]
  exact pm_10000

/-- the rounding function of the executable model (`ofmodel`, which is run against the compiled C code on every check) is itself a
member of the standard model: round to nearest even on a 53-bit significand with unbounded exponent is exact on integers below 2^53 and
has relative error at most 2^-53.  Hence every statement of this file, of C20 and of C05 holds for the model that is actually run. -/
theorem C19_executable_rounding_in_standard_model : RN53 CSem.rne53 := RneProof.rne53_RN53

-- non-vacuity: the hypotheses are satisfiable (exact arithmetic is a member of RN53; s = 1, maxv = 100)
example : RN53 id ∧ (1 : ℕ) ≤ 1 ∧ (1 : ℕ) ≤ 2147483646 ∧ (100 : ℕ) < 2 ^ 53 ∧ (16807 * 1 % 2147483647) * 100 < 2 ^ 53 :=
  ⟨RN53_id, by decide⟩

#print axioms C19_step
#print axioms C19_exact
#print axioms C19_range
#print axioms C19_seed_guard
#print axioms C19_10000
#print axioms C19_executable_rounding_in_standard_model
