import Mathlib.Data.Nat.Notation
import OpenFecVerif.Proofs.Session
import OpenFecVerif.Props.C09
import OpenFecVerif.Props.C13
import OpenFecVerif.Proofs.ListHelper
/-!
# C07 — memory safety and read-only treatment of application buffers (partial)

What the model can carry: *frame conditions* (which application-visible slots an operation may change), *index bounds*
(every table index the model uses is inside the table the API describes), and the kernels' non-interference (C13).
What it cannot exhibit — an actual out-of-bounds access, a write to a received symbol or a use after free in the compiled
code — is observed at run time: every history of this check runs on the real library under ASan/UBSan with exact-size heap
buffers whose end coincides with the allocation end, at all eight start alignments, with canaries in front and a
byte comparison of every application buffer after every call.
-/
open Api
variable {σ : Type}

/-- `of_build_repair_symbol` leaves every source entry of the application's table as it was -/
theorem C07_build_frame (IO : SymIO σ) (s : Session σ) (p : Params) (cw : List σ) (esi : ℕ) (own : Bool) (i : ℕ) (hi : i < p.k)
    (hinit : (s.enc.get 0).isSome = true) : (buildStep IO s p cw esi own).1.enc.get i = s.enc.get i :=
  buildStep_enc_get IO s p cw esi own i (by omega) hinit

/-- … and every *other* repair slot too: only the designated output slot changes -/
theorem C07_build_only_output_slot (IO : SymIO σ) (s : Session σ) (p : Params) (cw : List σ) (esi : ℕ) (own : Bool) (e : ℕ)
    (he : e ≠ esi) (hinit : (s.enc.get 0).isSome = true) : (buildStep IO s p cw esi own).1.enc.get e = s.enc.get e :=
  buildStep_enc_get IO s p cw esi own e (.inl he) hinit

/-- a submission outside the symbol tables (ESI ≥ n), with a NULL buffer or on a non-decoder is refused before any table is touched -/
theorem C07_esi_guard (IO : SymIO σ) (w : World σ) (sid esi : Nat) (null : Bool) (s : Session σ) (p : Params) (cw : List σ)
    (hs : w.ses.get sid = some s) (hp : s.params = some p) (hcw : s.cw = some cw)
    (hbad : esi ≥ p.n ∨ null = true ∨ isDec s = false) : (step IO w (.recv sid esi null)).2 = "ok st=FATAL" :=
  C09_bad_esi_rejected IO w sid esi null s p cw hs hp hcw hbad

/-- the Reed-Solomon decoder's symbol selection reads only entries of the n-entry availability table that are present,
never more than k of them (the scan for repair symbols cannot run past the table) -/
theorem C07_rs_choose_in_table (k n : Nat) (hk : k ≤ n) (avail : Nat → Option σ) :
    (∀ q ∈ RS.choose k n avail, q.1 < n ∧ avail q.1 = some q.2) ∧ (RS.choose k n avail).length ≤ k := by
  unfold RS.choose
  -- invariant of the scan after `i` steps: the chosen list and the pending repair list hold only present in-table entries,
  -- and at most `i` entries are chosen
  refine And.imp_right And.right (ListHelper.foldl_range_inv _ (fun i (acc : List (Nat × σ) × List (Nat × σ)) =>
    (∀ q ∈ acc.1, q.1 < n ∧ avail q.1 = some q.2) ∧ (∀ q ∈ acc.2, q.1 < n ∧ avail q.1 = some q.2) ∧ acc.1.length ≤ i)
    k _ ⟨by simp, ?_, by simp⟩ ?_)
  · simp only [List.mem_filterMap, List.mem_range'_1, Option.map_eq_some_iff]
    rintro q ⟨e, he, v, hv, rfl⟩
    exact ⟨by omega, hv⟩
  · rintro i ⟨a1, a2⟩ hi ⟨h1, h2, hl⟩
    have hl' (x : Nat × σ) : (a1 ++ [x]).length ≤ i + 1 := by rw [List.length_append]; exact Nat.succ_le_succ hl
    cases hav : avail i with
    | some v => exact ⟨List.forall_mem_append.mpr ⟨h1, List.forall_mem_singleton.mpr ⟨by omega, hav⟩⟩, h2, hl' _⟩
    | none =>
      cases a2 with
      | nil => exact ⟨h1, h2, Nat.le_succ_of_le hl⟩
      | cons p rest =>
        obtain ⟨hp, hrest⟩ := List.forall_mem_cons.mp h2
        exact ⟨List.forall_mem_append.mpr ⟨h1, List.forall_mem_singleton.mpr hp⟩, hrest, hl' p⟩

/-- kernels read and write only the first `size` bytes of their operands -/
theorem C07_kernel_noninterference (size : Nat) (dst frm frm' : List Nat) (h : ∀ i, i < size → frm.getD i 0 = frm'.getD i 0) :
    Kern.xor1 size dst frm = Kern.xor1 size dst frm' ∧ (Kern.xor1 size dst frm).length = dst.length :=
  Kern.C13_noninterference size dst frm frm' h
