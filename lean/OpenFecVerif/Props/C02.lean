import OpenFecVerif.Model.Api
import OpenFecVerif.Proofs.FldX
/-!
# C02 — both Reed-Solomon codecs are MDS

`RS.G`, `RS.basisAt`, `RS.pt` are the executable model's generator entries, interpolation
coefficients and evaluation points over the bit-level field operations (`RS.fld8` for codec 1 and
codec 2 with m = 8, `RS.fld4` for m = 4); the correspondence check compares them with the real
codecs' matrices and decoders.  `GF8.model` / `GF4.model` identify those operations with the fields
GF(2)[x]/(x^8+x^4+x^3+x^2+1) and GF(2)[x]/(x^4+x+1).
A block is `src : ℕ → F` (one field position of the k source symbols; symbols are vectors of such
positions and every operation acts position-wise).
-/
open Finset

/-- GF(2^8): decoding from ANY k distinct encoding symbols (ESIs `S`, in any order) of ANY block returns
every source symbol, for every 1 ≤ k ≤ n ≤ 255. -/
theorem C02_any_k_gf8 (k n : ℕ) (hk : k ≤ n) (hn : n ≤ 255) (src : ℕ → GF8.GF256)
    (S : List ℕ) (hnd : S.Nodup) (hS : ∀ s ∈ S, s < n) (hlen : S.length = k) (j : ℕ) (hj : j < k) :
    (S.map fun s => GF8.model.φ (RS.basisAt RS.fld8 S s (RS.pt RS.fld8 j)) * GF8.model.cwModel k src s).sum = src j :=
  GF8.model.decode_correct k n hn hk src S hnd hS hlen j hj

/-- GF(2^4): the same for every 1 ≤ k ≤ n ≤ 15. -/
theorem C02_any_k_gf4 (k n : ℕ) (hk : k ≤ n) (hn : n ≤ 15) (src : ℕ → GF4.GF16)
    (S : List ℕ) (hnd : S.Nodup) (hS : ∀ s ∈ S, s < n) (hlen : S.length = k) (j : ℕ) (hj : j < k) :
    (S.map fun s => GF4.model.φ (RS.basisAt RS.fld4 S s (RS.pt RS.fld4 j)) * GF4.model.cwModel k src s).sum = src j :=
  GF4.model.decode_correct k n hn hk src S hnd hS hlen j hj

/-- the code is systematic: the first k encoding symbols are the source symbols -/
theorem C02_systematic_gf8 (k n : ℕ) (hk : k ≤ n) (hn : n ≤ 255) (src : ℕ → GF8.GF256) (i : ℕ) (hi : i < k) :
    GF8.model.cwModel k src i = src i :=
  GF8.model.cwModel_systematic k n hn hk src i hi

theorem C02_systematic_gf4 (k n : ℕ) (hk : k ≤ n) (hn : n ≤ 15) (src : ℕ → GF4.GF16) (i : ℕ) (hi : i < k) :
    GF4.model.cwModel k src i = src i :=
  GF4.model.cwModel_systematic k n hn hk src i hi

/-- fewer than k symbols never determine a block: some non-zero message polynomial vanishes on all of them
(so a decoder that "completed" from them would be wrong for some data) -/
theorem C02_fewer_undetermined (k n : ℕ) (hk : k ≤ n) (hn : n ≤ 255) (s : Finset ℕ) (hs : s ⊆ range n) (hc : s.card < k) :
    ∃ p : Polynomial GF8.GF256, p ≠ 0 ∧ p.degree < k ∧ ∀ i ∈ s, p.eval (GF8.model.v i) = 0 :=
  RSA.not_determined k _ s hc

/-- the session model: with fewer than k symbols registered, `of_finish_decoding` answers FAILURE and
changes nothing, and completion is not reported -/
theorem C02_fewer_failure {σ : Type} (IO : Api.SymIO σ) (s : Api.Session σ) (p : Api.Params)
    (hf : s.finished = false) (hlt : s.nbAvail < p.k) :
    (Api.rsFinish IO s p).1 = Api.Status.failure ∧ (Api.rsFinish IO s p).2.1.finished = false := by
  unfold Api.rsFinish
  simp [hf, hlt]

-- non-vacuity: a concrete instance of the hypotheses (k = 3, n = 6, S = [5, 1, 3])
example : (3 : ℕ) ≤ 6 ∧ (6 : ℕ) ≤ 255 ∧ ([5, 1, 3] : List ℕ).Nodup ∧ (∀ s ∈ ([5, 1, 3] : List ℕ), s < 6) ∧
    ([5, 1, 3] : List ℕ).length = 3 := by decide

/-- the field operations the executable session model uses (`Api.fldOf`: table look-ups) are faithful copies of GF(2^8) and GF(2^4) -/
theorem C02_executable_field_ops : (Api.fldOf 1 0 = RS.fld8x ∧ Api.fldOf 2 8 = RS.fld8x ∧ Api.fldOf 2 4 = RS.fld4x) ∧
    Nonempty (FieldModel GF8.GF256 RS.fld8x) ∧ Nonempty (FieldModel GF4.GF16 RS.fld4x) :=
  ⟨⟨rfl, rfl, rfl⟩, ⟨GF8.modelx⟩, ⟨GF4.modelx⟩⟩
