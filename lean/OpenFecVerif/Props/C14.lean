import OpenFecVerif.Proofs.Tab.Small
import OpenFecVerif.Proofs.Tab.Mul8
/-!
# C14 — the GF(2^4) and GF(2^8) tables are the fields they claim to be

`Gen.of_*` are the tables of the current source tree (header initialisers, and the run-time tables of
the GF(2^8) codec dumped after `of_rs_init()`), regenerated on every run.  `GF.mul4`, `GF.mul8`,
`GF.xpow4`, `GF.xpow8` are bit-level arithmetic in GF(2)[x]/(x^4+x+1) and GF(2)[x]/(x^8+x^4+x^3+x^2+1).
Every statement quantifies over the whole index range.
-/
open GF Gen

private theorem mul256 {tab : List Nat} (h : chkMulLin 8 tab mul8 256 8 = true) :
    ∀ a b, a < 256 → b < 256 → entry 8 tab a b = mul8 a b :=
  chkMulLin_spec GF.zero_mul (fun _ _ b => mul_xor_left (by decide) b) h

/-- GF(2^4) multiplication table of the GF(2^m) codec -/
theorem C14_mul4 : ∀ a b, a < 16 → b < 16 → entry 8 of_gf_2_4_mul_table a b = mul4 a b :=
  fun a b ha hb => chkMulRows_spec Tab.Mul4 a b (by omega) (by omega) hb

/-- packed two-nibble table: entry (c, x) multiplies both nibbles of x by c -/
theorem C14_opt4 : ∀ c x, c < 16 → x < 256 →
    entry 8 of_gf_2_4_opt_mul_table c x = ((mul4 c (x >>> 4)) <<< 4) ||| (mul4 c (x &&& 15)) :=
  chkMulLin_spec (fun x => by simp [opt4, mul4, GF.zero_mul]) opt4_xor Tab.Opt4

/-- GF(2^8) multiplication table of the GF(2^m) codec -/
theorem C14_mul8 : ∀ a b, a < 256 → b < 256 → entry 8 of_gf_2_8_mul_table a b = mul8 a b :=
  mul256 Tab.Mul8

/-- multiplication table generated at first use by the GF(2^8) codec -/
theorem C14_rs8_mul : ∀ a b, a < 256 → b < 256 → entry 8 of_gf_mul_table a b = mul8 a b :=
  mul256 Tab.Rs8Mul

/-- exponential tables: entry i is x^(i mod (2^m − 1)), for every index the table has -/
theorem C14_exp :
    (∀ i, i < 16 → entry 8 of_gf_2_4_exp 0 i = xpow4 (i % 15)) ∧
    (∀ i, i < 256 → entry 8 of_gf_2_8_exp 0 i = xpow8 (i % 255)) ∧
    (∀ i, i < 510 → entry 8 of_rs_gf_exp 0 i = xpow8 (i % 255)) :=
  ⟨chkExp_spec Tab.Exp4, chkExp_spec Tab.Exp8, chkExp_spec Tab.RsExp⟩

/-- inverse tables: inv[0] = 0 and a · inv[a] = 1 for every non-zero field element -/
theorem C14_inv :
    (∀ a, 0 < a → a < 16 → mul4 a (entry 8 of_gf_2_4_inv 0 a) = 1) ∧
    (∀ a, 0 < a → a < 256 → mul8 a (entry 8 of_gf_2_8_inv 0 a) = 1) ∧
    (∀ a, 0 < a → a < 256 → mul8 a (entry 8 of_rs_inverse 0 a) = 1) ∧
    entry 8 of_gf_2_4_inv 0 0 = 0 ∧ entry 8 of_gf_2_8_inv 0 0 = 0 ∧ entry 8 of_rs_inverse 0 0 = 0 :=
  ⟨(chkInv_spec Tab.Inv4).1, (chkInv_spec Tab.Inv8).1, (chkInv_spec Tab.RsInv).1,
    (chkInv_spec Tab.Inv4).2, (chkInv_spec Tab.Inv8).2, (chkInv_spec Tab.RsInv).2⟩

/-- logarithm tables on field elements: exp[log a] = a, log a < 2^m − 1, and the sentinel log 0 = 2^m − 1.
(Entries of `of_gf_2_8_log` at indices ≥ 256 are not logarithms of field elements and are not constrained.) -/
theorem C14_log :
    ((∀ a, 0 < a → a < 16 → entry 8 of_gf_2_4_log 0 a < 15 ∧ entry 8 of_gf_2_4_exp 0 (entry 8 of_gf_2_4_log 0 a) = a) ∧
      entry 8 of_gf_2_4_log 0 0 = 15) ∧
    ((∀ a, 0 < a → a < 256 → entry 32 of_gf_2_8_log 0 a < 255 ∧ entry 8 of_gf_2_8_exp 0 (entry 32 of_gf_2_8_log 0 a) = a) ∧
      entry 32 of_gf_2_8_log 0 0 = 255) ∧
    ((∀ a, 0 < a → a < 256 → entry 32 of_rs_gf_log 0 a < 255 ∧ entry 8 of_rs_gf_exp 0 (entry 32 of_rs_gf_log 0 a) = a) ∧
      entry 32 of_rs_gf_log 0 0 = 255) ∧
    of_gf_2_8_log_overflow = [] ∧ of_rs_gf_log_overflow = [] :=
  ⟨chkLog_spec Tab.Log4, chkLog_spec Tab.Log8, chkLog_spec Tab.RsLog, Tab.noOverflow⟩

/-- the tables have the shapes the codecs index them with, and codec 1 uses the polynomial of RFC 5510 (`RS_POLY` lists the coefficients
from degree 0 up: 1 + x² + x³ + x⁴ + x⁸, which is `poly8` = 0x11D) -/
theorem C14_shapes :
    of_gf_2_4_mul_table_rows = 16 ∧ of_gf_2_4_mul_table_cols = 16 ∧ of_gf_2_4_opt_mul_table_rows = 16 ∧
    of_gf_2_4_opt_mul_table_cols = 256 ∧ of_gf_2_8_mul_table_rows = 256 ∧ of_gf_2_8_mul_table_cols = 256 ∧
    of_gf_mul_table_rows = 256 ∧ of_gf_mul_table_cols = 256 ∧ RS_GF_BITS = 8 ∧ RS_POLY = "101110001" := by
  decide

/-- the tables of the GF(2^8) codec are generated at first use by `of_rs_init()`, which is exported and may run again: a second
generation (performed on the current sources this run) leaves every entry of the exponential, logarithm, inverse and multiplication
tables as it was — so the statements above also hold after any number of regenerations -/
theorem C14_regeneration_idempotent : RS_REGEN_MISMATCHES = 0 := by decide
