import OpenFecVerif.Proofs.Conv
/-!
# C17 — the sparse GF(2) matrix is a set of (row, column) pairs under any operation sequence

`Sparse.M` (Model/Sparse.lean) keeps what the C structure keeps: the traversal order of every row and of every
column (two redundant orderings of the same entries) and the entry pool.  `Sparse.Mem m r c` is the abstract set.
`Sparse.Inv` says: every row and column traversal is strictly increasing, an entry is in its row's list iff it is in
its column's list, all indexes are in range, and the pool accounts for every record
(`free + entries in use = 1024 * blocks`).  The correspondence check runs the same operation sequences on the real
module and compares every traversal, `find` on every cell and the pool counters after each operation.
-/
namespace Sparse

/-- a freshly allocated matrix is empty and well formed -/
theorem C17_alloc_inv {nr nc : Nat} {m : M} (h : alloc nr nc = some m) :
    Inv m ∧ m.nr = nr ∧ m.nc = nc ∧ ∀ r c, ¬ Mem m r c := alloc_inv h

theorem C17_insert_inv {m : M} (h : Inv m) (r c : Nat) : Inv (insert m r c).1 := insert_inv h r c
theorem C17_delete_inv {m : M} (h : Inv m) (r c : Nat) : Inv (delete m r c).1 := delete_inv h r c
theorem C17_clear_inv (m : M) : Inv (clear m) ∧ ∀ r c, ¬ Mem (clear m) r c := clear_inv m

/-- `find` (last-of-row test, last-of-column test, parallel scan) agrees with membership -/
theorem C17_find_iff_mem {m : M} (h : Inv m) (r c : Nat) : find m r c = true ↔ Mem m r c := find_iff_mem h r c

/-- in-range insertion adds exactly that pair; out of range it is refused and nothing changes -/
theorem C17_insert_mem {m : M} (r c : Nat) :
    (r < m.nr → c < m.nc → ∀ r' c', Mem (insert m r c).1 r' c' ↔ (r' = r ∧ c' = c) ∨ Mem m r' c') ∧
    ((r ≥ m.nr ∨ c ≥ m.nc) → insert m r c = (m, none)) :=
  ⟨fun hr hc r' c' => (insert_mem m r c r' c').trans (or_congr (and_iff_left_of_imp fun e => by omega) Iff.rfl),
    insert_out_of_range r c⟩

/-- inserting an existing entry is idempotent (same entries, same traversals, same pool) -/
theorem C17_insert_idem {m : M} (r c : Nat) : (insert (insert m r c).1 r c).1 = (insert m r c).1 := insert_idem r c

/-- find-then-delete removes exactly that pair and reports whether it was present -/
theorem C17_delete_mem {m : M} (h : Inv m) (r c : Nat) :
    (∀ r' c', Mem (delete m r c).1 r' c' ↔ Mem m r' c' ∧ ¬ (r' = r ∧ c' = c)) ∧ ((delete m r c).2 = true ↔ Mem m r c) := by
  refine ⟨fun r' c' => ?_, ?_⟩
  · unfold delete
    split
    next hf => exact mem_set_erase (h.rows_sorted r) c r' c'
    next hf =>
      have hn : ¬ Mem m r c := fun e => hf ((find_iff_mem h r c).mpr e)
      exact ⟨fun e => ⟨e, fun ⟨a, b⟩ => hn (a ▸ b ▸ e)⟩, And.left⟩
  · rw [← find_iff_mem h]
    unfold delete
    split <;> simp [*]

/-- a row traversal lists exactly the row's entries, in increasing order, without repetition -/
theorem C17_row_sorted {m : M} (h : Inv m) (r : Nat) :
    (m.rows.get r).Pairwise (· < ·) ∧ (m.rows.get r).Nodup ∧ ∀ c, c ∈ m.rows.get r ↔ Mem m r c :=
  ⟨h.rows_sorted r, (h.rows_sorted r).nodup, fun _ => Iff.rfl⟩

/-- a column traversal lists exactly the column's entries, in increasing order, without repetition -/
theorem C17_col_exact {m : M} (h : Inv m) (c : Nat) :
    (m.cols.get c).Pairwise (· < ·) ∧ (m.cols.get c).Nodup ∧ ∀ r, r ∈ m.cols.get c ↔ Mem m r c :=
  ⟨h.cols_sorted c, (h.cols_sorted c).nodup, fun r => (h.consistent r c).symm⟩

theorem C17_copy_spec (m r : M) (hm : Inv m) (hr : Inv r) :
    Inv (copy m r) ∧ ((m.nr ≤ r.nr ∧ m.nc ≤ r.nc) → ∀ i j, Mem (copy m r) i j ↔ Mem m i j) ∧
    ((m.nr > r.nr ∨ m.nc > r.nc) → copy m r = r) := by
  refine ⟨copy_inv m r hr, fun hfit i j => ?_, fun h => by unfold copy; simp [h]⟩
  unfold copy
  rw [if_neg (by omega), (Adds.foldl _ (fun a e => Adds.insert' a e.1 e.2) _).mem]
  simp only [(clear_inv r).2 i j, or_false]
  constructor
  · rintro ⟨⟨e, he, rfl, rfl⟩, _⟩; exact ((mem_entries m _ _).mp he).2
  · intro h
    have hb := hm.bound i j h
    exact ⟨⟨(i, j), (mem_entries m i j).mpr ⟨hb.1, h⟩, rfl, rfl⟩, Nat.lt_of_lt_of_le hb.1 hfit.1, Nat.lt_of_lt_of_le hb.2 hfit.2⟩

theorem C17_copyrows_spec (m r : M) (idx : List Nat) (hm : Inv m) (hr : Inv r) :
    Inv (copyrows m r idx) ∧
    (m.nc ≤ r.nc → (∀ i, i < r.nr → idx.getD i 0 < m.nr) →
      ∀ i j, Mem (copyrows m r idx) i j ↔ i < r.nr ∧ Mem m (idx.getD i 0) j) :=
  ⟨copyrows_inv m r idx hr, fun hfit hv i j => by rw [copyrows_mem m r idx hm hfit, takeWhile_valid hv, List.mem_range]⟩

theorem C17_copycols_spec (m r : M) (idx : List Nat) (hm : Inv m) (hr : Inv r) :
    Inv (copycols m r idx) ∧
    (m.nr ≤ r.nr → (∀ j, j < r.nc → idx.getD j 0 < m.nc) →
      ∀ i j, Mem (copycols m r idx) i j ↔ j < r.nc ∧ Mem m i (idx.getD j 0)) :=
  ⟨copycols_inv m r idx hr, fun hfit hv i j => by rw [copycols_mem m r idx hm hfit, takeWhile_valid hv, List.mem_range]⟩

theorem C17_copyFilled_spec (m r : M) (ir ic : List Nat) (hm : Inv m) (hr : Inv r) :
    Inv (copyFilled m r ir ic) ∧
    ∀ i j, Mem (copyFilled m r ir ic) i j ↔
      (∃ a b, Mem m a b ∧ ir.getD a 0 = i ∧ ic.getD b 0 = j ∧ i < r.nr ∧ j < r.nc) ∨ Mem r i j := by
  refine ⟨copyFilled_inv m r ir ic hr, fun i j => ?_⟩
  refine ((Adds.copyFilled m r ir ic).mem i j).trans (or_congr ⟨?_, ?_⟩ Iff.rfl)
  · rintro ⟨⟨⟨a, b⟩, he, _, rfl, rfl⟩, h3, h4⟩; exact ⟨a, b, ((mem_entries m a b).mp he).2, rfl, rfl, h3, h4⟩
  · rintro ⟨a, b, hab, rfl, rfl, h3, h4⟩
    -- the emptiness tests are always passed by an existing entry
    have hne : (!(m.cols.get b).isEmpty && !(m.rows.get a).isEmpty) = true := by
      simp [List.ne_nil_of_mem hab, List.ne_nil_of_mem ((hm.consistent _ _).mp hab)]
    exact ⟨⟨(a, b), (mem_entries m a b).mpr ⟨(hm.bound a b hab).1, hab⟩, hne, rfl, rfl⟩, h3, h4⟩

/-- operations on one matrix; the copy family takes its source as an arbitrary (well-formed or not) matrix -/
inductive Op
  | insert (r c : Nat) | delete (r c : Nat) | clear
  | copyFrom (src : M) | copyrowsFrom (src : M) (idx : List Nat) | copycolsFrom (src : M) (idx : List Nat)
  | copyFilledFrom (src : M) (ir ic : List Nat)

def step (m : M) : Op → M
  | .insert r c => (insert m r c).1
  | .delete r c => (delete m r c).1
  | .clear => clear m
  | .copyFrom s => copy s m
  | .copyrowsFrom s idx => copyrows s m idx
  | .copycolsFrom s idx => copycols s m idx
  | .copyFilledFrom s ir ic => copyFilled s m ir ic

/-- **any operation sequence** (in range or not, valid index lists or not) keeps the matrix well formed — hence
`find` = membership, sorted exact traversals and the pool equation hold in every reachable state -/
theorem C17_run_inv {m : M} (h : Inv m) (ops : List Op) : Inv (ops.foldl step m) :=
  List.foldlRecOn ops step h fun m h op _ => by
    cases op with
    | insert r c => exact insert_inv h r c
    | delete r c => exact delete_inv h r c
    | clear => exact (clear_inv m).1
    | copyFrom s => exact copy_inv s m h
    | copyrowsFrom s idx => exact copyrows_inv s m idx h
    | copycolsFrom s idx => exact copycols_inv s m idx h
    | copyFilledFrom s ir ic => exact copyFilled_inv s m ir ic h

/-- the entry pool accounts for every record: nothing in use is on the free list and nothing is lost -/
theorem C17_pool_exact {nr nc : Nat} {m0 : M} (h0 : alloc nr nc = some m0) (ops : List Op) :
    (ops.foldl step m0).pool.free + count (ops.foldl step m0) = blockSize * (ops.foldl step m0).pool.blocks :=
  (C17_run_inv (alloc_inv h0).1 ops).pool

-- non-vacuity: a concrete reachable state with entries, a deletion and a recycled record
example : ∃ m0, alloc 3 4 = some m0 ∧
    let m := [Op.insert 1 2, .insert 1 0, .insert 2 2, .insert 1 2, .delete 1 0, .insert 0 3].foldl step m0
    m.rows.get 1 = [2] ∧ m.cols.get 2 = [1, 2] ∧ find m 2 2 = true ∧ find m 1 0 = false ∧ m.pool = ⟨1, 1021⟩ := by
  refine ⟨_, rfl, ?_⟩
  decide

/-! ### conversion to and from the dense representation (`Proofs/Conv.lean`) -/

/-- of_mod2dense_to_sparse builds, whatever the destination held, a matrix that satisfies the invariant and whose entries are exactly
the one bits of the dense matrix -/
theorem C17_from_dense {m : Dense.D} {r : M} (hfit : m.nr ≤ r.nr ∧ m.nc ≤ r.nc) :
    Inv (Dense.toSparse m r) ∧ ∀ i j, Mem (Dense.toSparse m r) i j ↔ (i < m.nr ∧ j < m.nc ∧ Dense.bit m i j = true) :=
  Dense.mem_toSparse hfit

/-- of_mod2sparse_to_dense reads the set of entries: cell (i, j) of the result is one exactly when (i, j) is an entry -/
theorem C17_to_dense {s : M} {r : Dense.D} (hs : Inv s) (hr : Dense.WF r) (hfit : s.nr ≤ r.nr ∧ s.nc ≤ r.nc) (i j : Nat) :
    Dense.bit (Dense.ofSparse s r) i j = true ↔ Mem s i j := (Dense.bit_ofSparse hs hr hfit).2 i j

end Sparse
