import OpenFecVerif.Proofs.Blocking
/-!
# C20 — eperftool block partitioning follows RFC 5052

`Gen.of_compute_blocking_struct` is regenerated from `applis/eperftool/blocking_struct.c` on every run
(doubles through the abstract rounding operator `rn` of the binary64 standard model `RN53`).
`cdiv a b` = ⌈a/b⌉ on naturals.
-/
open Gen BlockingProofs

/-- For every object length L ≥ 1, symbol size E ≥ 1 and block size B ≥ 1 (32-bit values):
nb_blocks = N = ⌈⌈L/E⌉/B⌉, A_large = ⌈T/N⌉, A_small = ⌊T/N⌋, under ANY rounding operator satisfying the standard model. -/
theorem C20_partial (rn : ℚ → ℚ) (h : RN53 rn) (B L E i0 i1 i2 i3 : ℕ)
    (hB : 1 ≤ B) (hE : 1 ≤ E) (hL1 : 1 ≤ L) (hL : L < 2 ^ 32) (hBlt : B < 2 ^ 32) (hElt : E < 2 ^ 32) :
    (of_compute_blocking_struct rn i0 i1 i2 i3 B L E).1 = cdiv (cdiv L E) B ∧
    (of_compute_blocking_struct rn i0 i1 i2 i3 B L E).2.1 = cdiv (cdiv L E) (cdiv (cdiv L E) B) ∧
    (of_compute_blocking_struct rn i0 i1 i2 i3 B L E).2.2.1 = cdiv L E / cdiv (cdiv L E) B := by
  rw [blocking_eq rn h B L E i0 i1 i2 i3 hB hE hL1 hL hBlt hElt]
  exact ⟨rfl, rfl, rfl⟩

/-- the integer structure RFC 5052 prescribes: with N = ⌈T/B⌉, A_large = ⌈T/N⌉ ≤ B, A_small = ⌊T/N⌋, I = T mod N,
the blocks add up: I·A_large + (N − I)·A_small = T -/
theorem C20_integer_structure (T B : ℕ) (hT : 1 ≤ T) (hB : 1 ≤ B) :
    cdiv T (cdiv T B) ≤ B ∧
    (T % cdiv T B) * cdiv T (cdiv T B) + (cdiv T B - T % cdiv T B) * (T / cdiv T B) = T ∧
    T % cdiv T B < cdiv T B := by
  have hN1 := cdiv_pos T B hT hB
  have hTN : T ≤ cdiv T B * B := (cdiv_le_iff hB).1 le_rfl
  generalize cdiv T B = N at hN1 hTN ⊢
  have hmod := Nat.mod_lt T hN1
  refine ⟨(cdiv_le_iff hN1).2 (by rwa [Nat.mul_comm]), ?_, hmod⟩
  -- r·(q + i) + (N − r)·q = N·q + r·i, where i = 1 unless r = 0
  rw [show cdiv T N = _ from FP.cdiv_eq T N hN1, Nat.mul_add, Nat.add_right_comm, ← Nat.add_mul, Nat.add_sub_cancel' hmod.le]
  have hdm := Nat.div_add_mod T N
  split <;> omega

/-- **C20, full statement.** For every object length 1 ≤ L < 2^32, symbol size E ≥ 1 and maximum block size B ≥ 1, under ANY
rounding operator satisfying the binary64 standard model, the four outputs are the RFC 5052 partition of T = ⌈L/E⌉ symbols into
N = ⌈T/B⌉ blocks: A_large = ⌈T/N⌉, A_small = ⌊T/N⌋, I = T mod N — and therefore (C20_integer_structure) A_large ≤ B and
I·A_large + (N − I)·A_small = T. -/
theorem C20_full (rn : ℚ → ℚ) (h : RN53 rn) (B L E i0 i1 i2 i3 : ℕ)
    (hB : 1 ≤ B) (hE : 1 ≤ E) (hL1 : 1 ≤ L) (hL : L < 2 ^ 32) (hBlt : B < 2 ^ 32) (hElt : E < 2 ^ 32) :
    let bs := of_compute_blocking_struct rn i0 i1 i2 i3 B L E
    let T := cdiv L E
    let N := cdiv T B
    bs.1 = N ∧ bs.2.1 = cdiv T N ∧ bs.2.2.1 = T / N ∧ bs.2.2.2 = T % N ∧
    bs.2.1 ≤ B ∧ bs.2.2.2 * bs.2.1 + (bs.1 - bs.2.2.2) * bs.2.2.1 = T := by
  intro bs T N
  have hs := C20_integer_structure T B (cdiv_pos L E hL1 hE) hB
  rw [show bs = (N, cdiv T N, T / N, T % N) from blocking_eq rn h B L E i0 i1 i2 i3 hB hE hL1 hL hBlt hElt]
  exact ⟨rfl, rfl, rfl, rfl, hs.1, hs.2.1⟩

-- non-vacuity: the hypotheses are satisfiable (L = 10, E = 1, B = 3; exact arithmetic is in RN53)
example : RN53 id ∧ cdiv (cdiv 10 1) 3 = 4 := ⟨RN53_id, by decide⟩
