import OpenFecVerif.Model.Api
/-!
# C08 — a released session leaves nothing behind (partial)

What a theorem can carry here is the ownership rule: `Api.returnedCount s` is the number of heap blocks the model says
the *application* owns when session `s` is released — decoded source symbols that the library allocated (not the
received ones, which are the application's own pointers, and not those written into a callback buffer) and repair
symbols built into a NULL output slot.  The correspondence check compares this number, at every release point, with
the blocks that the real library allocated inside the session's calls and left live (sanitizer malloc/free hooks), and
demands that nothing else is live (`other=0`), LeakSanitizer silent, no double free.  That the compiled code frees
everything else exactly once is the runtime part and is observed, not proved.
-/
open Api
variable {σ : Type}

/-- a session released before it is configured owns nothing on the application's behalf -/
theorem C08_unconfigured_owns_nothing (s : Session σ) (h : s.params = none) : returnedCount s = 0 := by
  unfold returnedCount; simp [h]

/-- a pure encoder hands over exactly the repair symbols it built into NULL slots -/
theorem C08_encoder_owns_null_slots (s : Session σ) (p : Params) (hp : s.params = some p) (hd : isDec s = false) :
    returnedCount s = ((List.range' p.k p.r).filter fun e => s.encLib.get e && (s.enc.get e).isSome).length := by
  unfold returnedCount; simp [hp, hd]

/-- a Reed-Solomon decoder that has not decoded yet hands over no source symbol -/
theorem C08_rs_decoder_owns_decoded (s : Session σ) (p : Params) (hp : s.params = some p) (hc : s.codec ≠ 3) (hf : s.finished = false) :
    returnedCount s = ((List.range' p.k p.r).filter fun e => s.encLib.get e && (s.enc.get e).isSome).length := by
  unfold returnedCount
  simp [hp, hc, hf]

/-- a received symbol (provenance `app j`: the application's own buffer) or a callback buffer is never counted -/
theorem C08_received_never_owned (s : Session σ) (p : Params) (hp : s.params = some p) (hc : s.codec ≠ 3)
    (hall : ∀ i, i < p.k → ∀ sl, s.avail.get i = some sl → sl.prov ≠ Prov.lib) :
    returnedCount s = ((List.range' p.k p.r).filter fun e => s.encLib.get e && (s.enc.get e).isSome).length := by
  unfold returnedCount
  simp only [hp, beq_eq_false_iff_ne.mpr hc, Bool.false_eq_true, if_false]
  refine Nat.add_eq_right.mpr ?_
  split
  · rfl
  · rw [List.length_eq_zero_iff, List.filter_eq_nil_iff]
    intro i hi
    cases hs : s.avail.get i with
    | none => simp
    | some sl => simp [hall i (List.mem_range.mp hi) sl hs]

/-- never more than one block per encoding symbol -/
theorem C08_returned_le (s : Session σ) (p : Params) (hp : s.params = some p) : returnedCount s ≤ p.k + p.r := by
  unfold returnedCount
  simp only [hp]
  refine Nat.add_le_add ?_ (le_of_le_of_eq (List.length_filter_le _ _) List.length_range')
  split
  · exact Nat.zero_le _
  · exact le_of_le_of_eq (List.length_filter_le _ _) List.length_range
