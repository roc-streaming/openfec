import OpenFecVerif.Props.C02
import OpenFecVerif.Proofs.MLSound
import OpenFecVerif.Proofs.LdpcEnc
/-!
# C01 — decoders never hand back a wrong source symbol

Reed-Solomon part: whatever k distinct symbols the decoder's selection rule picks, interpolation
returns the encoded source symbol (so a decoded symbol can only be right).

LDPC-Staircase / 2D part: `ITSound.VInv O sent it` is the invariant of the decoder state `it` w.r.t. the transmitted
block `sent` (every stored value is the transmitted one; every remaining equation has no repeated entry; the partial sum
of an equation is the sum of the transmitted values of its remaining entries).  It holds after configuration
(`C01_ldpc_configured`), is preserved by every submission of a true symbol through the iterative decoder — including the
recursive rebuilding of symbols — (`C01_it_sound`) and by `of_finish_decoding`, i.e. the simplification of the system, the
Gaussian elimination and the write-back (`C01_ldpc_session_sound`), for any sequence of calls.  Hypotheses: symbol addition
is XOR-like (`Gauss.Lawful`), and the transmitted block satisfies every parity-check equation of the session
(`MLSound.Codeword`) — which is what the encoder theorems of C06 establish.
-/

/-- RS over GF(2^8) (codec 1, codec 2 with m = 8): every decoded source position equals the encoded one -/
theorem C01_rs_sound_gf8 (k n : ℕ) (hk : k ≤ n) (hn : n ≤ 255) (src : ℕ → GF8.GF256)
    (S : List ℕ) (hnd : S.Nodup) (hS : ∀ s ∈ S, s < n) (hlen : S.length = k) (j : ℕ) (hj : j < k) :
    (S.map fun s => GF8.model.φ (RS.basisAt RS.fld8 S s (RS.pt RS.fld8 j)) * GF8.model.cwModel k src s).sum
      = GF8.model.cwModel k src j := by
  rw [C02_any_k_gf8 k n hk hn src S hnd hS hlen j hj, C02_systematic_gf8 k n hk hn src j hj]

/-- RS over GF(2^4) (codec 2 with m = 4) -/
theorem C01_rs_sound_gf4 (k n : ℕ) (hk : k ≤ n) (hn : n ≤ 15) (src : ℕ → GF4.GF16)
    (S : List ℕ) (hnd : S.Nodup) (hS : ∀ s ∈ S, s < n) (hlen : S.length = k) (j : ℕ) (hj : j < k) :
    (S.map fun s => GF4.model.φ (RS.basisAt RS.fld4 S s (RS.pt RS.fld4 j)) * GF4.model.cwModel k src s).sum
      = GF4.model.cwModel k src j := by
  rw [C02_any_k_gf4 k n hk hn src S hnd hS hlen j hj, C02_systematic_gf4 k n hk hn src j hj]

/-- LDPC-Staircase / 2D parity, Gaussian-elimination stage: the transmitted block restricted to the unknown symbols satisfies
every equation of the simplified system, so whatever the solver model returns IS the transmitted block (and it then satisfies
every equation, including those that end up below the q-th row, which backward substitution never reads) -/
theorem C01_ml_sound {σ : Type} {O : Ops σ} (hO : Gauss.Lawful O) (q : Nat) (rows : List (Gauss.Row σ)) (hw : Gauss.Wide q rows)
    (hlen : q ≤ rows.length) (xs : List σ) (h : Gauss.solve O q rows = some xs) (sent : List σ) (hx : sent.length = q)
    (hsat : ∀ r ∈ rows, Gauss.Sat O sent r) : xs = sent :=
  (Gauss.solve_sound hO q rows hw hlen xs h sent hx hsat).1

/-- **Iterative decoder, value level.**  Whatever sequence of transmitted symbols is submitted to the streaming decoder
(any order, duplicates, any prefix), every value it holds afterwards — received, or rebuilt from a partial sum by the
recursive peeling — is the transmitted one. -/
theorem C01_it_sound {σ : Type} {O : Ops σ} (hO : Gauss.Lawful O) (sent : Nat → σ) (n k : Nat) (Hl : List (List Nat))
    (hnd : ∀ row ∈ Hl, row.Nodup) (hcw : ∀ row ∈ Hl, ITSound.S O sent row = O.zero) (l : List Nat) (e : Nat) (v : σ)
    (h : (ITRefine.runExec O n k Hl (l.map fun e => (e, sent e))).sym.get e = some v) : v = sent e :=
  (ITSound.run_sound hO sent n k Hl hnd hcw l).sym_ok e v h

/-- the simplified system built by `of_finish_decoding` is satisfied by the transmitted values of the unknown symbols -/
theorem C01_simplify_sound {σ : Type} {O : Ops σ} (hO : Gauss.Lawful O) (sent : Nat → σ) (sym : Nat → Option σ)
    (hs : ∀ e v, sym e = some v → v = sent e) (k r : Nat) (row : List Nat) (hnd : row.Nodup)
    (hlt : ∀ e ∈ row, e < k + r) (hcw : ITSound.S O sent row = O.zero) :
    Gauss.Sat O ((MLSound.unknowns (fun e => (sym e).isSome) k r).map sent)
      (MLSound.sysRow O sym (MLSound.unknowns (fun e => (sym e).isSome) k r) row) :=
  MLSound.simplify_sat hO sent sym hs k r row hnd hlt hcw

/-- a freshly configured LDPC-Staircase session (encoder or decoder role, odd or even N1) satisfies the invariant; an even-N1 decoder
that pretends to have received the last repair symbol as zero does so soundly when that symbol IS zero (C15) -/
theorem C01_ldpc_configured {σ : Type} (IO : Api.SymIO σ) (g : Nat) (s : Api.Session σ) (p : Api.Params) (sent : Nat → σ)
    (hc : s.codec = 3) (hO : Gauss.Lawful (IO.ops 3 p.m p.len)) (g' : Nat) (s' : Api.Session σ)
    (h : Api.setParamsStd IO g s p = (g', .ok, s'))
    (hcw : MLSound.Codeword (IO.ops 3 p.m p.len) sent (p.k + p.r) s'.H)
    (hlast : s'.extra = false → p.N1 % 2 = 0 → sent (p.n - 1) = (IO.ops 3 p.m p.len).zero) :
    ∃ it, s'.it = some it ∧ ITSound.VInv (IO.ops 3 p.m p.len) sent it := by
  obtain ⟨_, M, _, hH, hex, _, hit⟩ := Api.setParamsStd_ok_ldpc hc h
  rw [hH] at hcw
  have h0 : ITSound.VInv (IO.ops 3 p.m p.len) sent (IT.init p.k M.rows : IT.St σ) :=
    ITSound.init_sound sent p.k M.rows (fun row hr => (hcw row hr).1) (fun row hr => (hcw row hr).2.2)
  refine ⟨_, hit, ?_⟩
  split
  · rename_i hcond
    simp only [Bool.and_eq_true, Bool.not_eq_true', beq_iff_eq] at hcond
    have := ITSound.PA_all hO sent (p.n + 1) (IT.init p.k M.rows) (p.n - 1) h0
    rwa [hlast (hex ▸ hcond.2.1) hcond.2.2] at this
  · exact h0

/-- **LDPC-Staircase / 2D decoder sessions never hold a wrong symbol**: after any sequence of `of_decode_with_new_symbol` /
`of_set_available_symbols` entries (any order, duplicates) and `of_finish_decoding` calls on the session model, every
stored symbol — in particular every non-NULL entry of `of_get_source_symbols_tab` — is the transmitted one. -/
theorem C01_ldpc_session_sound {σ : Type} (IO : Api.SymIO σ) (p : Api.Params) (sent : Nat → σ)
    (hO : Gauss.Lawful (IO.ops 3 p.m p.len)) (ops : List MLSound.DecOp) (s : Api.Session σ) (it : IT.St σ)
    (hit : s.it = some it) (inv : ITSound.VInv (IO.ops 3 p.m p.len) sent it)
    (hcw : MLSound.Codeword (IO.ops 3 p.m p.len) sent (p.k + p.r) s.H) :
    ∃ it', (MLSound.runDec IO p sent s ops).it = some it' ∧ ∀ e v, it'.sym.get e = some v → v = sent e := by
  obtain ⟨-, it', h1, h2⟩ := MLSound.runDec_sound IO p hO ops ⟨hcw, it, hit, inv⟩
  exact ⟨it', h1, h2.sym_ok⟩

/-- **Round trip (encoder model + decoder model).**  For a staircase-shaped, duplicate-free system of equations (every matrix the RFC 5170
construction returns is one, `C05_matrix_wf`; every accepted 2D shape is one, C16), let the block be the encoder's output on `src`.  After
any sequence of submissions of symbols of that block (any subset, any order, duplicates, either API) and `of_finish_decoding` calls, every
source symbol the decoder session holds is the corresponding symbol of `src`.  `V` is any group in which every element is its own
opposite (byte strings of one length under XOR). -/
theorem C01_ldpc_roundtrip {V : Type} [AddCommGroup V] (h2 : ∀ v : V, v + v = 0) (IO : Api.SymIO V) (p : Api.Params)
    (hops : IO.ops 3 p.m p.len = grpOps V) (s : Api.Session V) (it : IT.St V) (hit : s.it = some it) (hHlen : s.H.length = p.r)
    (hwf : ∀ row ∈ s.H, row.Nodup ∧ ∀ e ∈ row, e < p.k + s.H.length) (hst : Api.stairCheck p.k s.H = true) (src : List V)
    (hs : src.length = p.k)
    (inv : ITSound.VInv (grpOps V) (fun e => (Api.ldpcEncode (grpOps V) p.k s.H src).getD e 0) it) (ops : List MLSound.DecOp) :
    ∃ it', (MLSound.runDec IO p (fun e => (Api.ldpcEncode (grpOps V) p.k s.H src).getD e 0) s ops).it = some it' ∧
      ∀ e v, e < p.k → it'.sym.get e = some v → v = src.getD e 0 := by
  -- the encoder's output satisfies every equation (`LdpcEnc.parity`), so it is a codeword in the sense of the decoder theorems
  have hcw : MLSound.Codeword (grpOps V) (fun e => (Api.ldpcEncode (grpOps V) p.k s.H src).getD e 0) (p.k + p.r) s.H :=
    fun row hrow => ⟨(hwf row hrow).1, hHlen ▸ (hwf row hrow).2,
      LdpcEnc.encode_parity_mem (lawful_grpOps h2) (stairCheck_iff.mp hst) src hs row hrow⟩
  obtain ⟨-, it', h1, h2'⟩ := MLSound.runDec_sound IO p (by rw [hops]; exact lawful_grpOps h2) ops
    ⟨by rw [hops]; exact hcw, it, hit, by rw [hops]; exact inv⟩
  refine ⟨it', h1, fun e v he hv => ?_⟩
  rw [h2'.sym_ok e v hv]
  exact LdpcEnc.encode_systematic _ p.k s.H src e (hs ▸ he) 0

-- non-vacuity: that the byte-string XOR operations are lawful on symbols of one length is assumed (`Gauss.Lawful`); the invariant's
-- premises are met by a concrete block: equation [0,1,2] over Bool symbols with the block (true, true, false)
example : ITSound.S Gauss.boolOps (fun e => [true, true, false].getD e false) [0, 1, 2] = Gauss.boolOps.zero := by decide

/-! ### the executable Reed-Solomon decoder function (`RS.interpolate` as run by `Api.rsDecode`) -/

/-- **The Reed-Solomon decoder function of the model never returns a wrong symbol**: `RS.interpolate` applied to any k received symbols
with distinct ESIs below n ≤ 2^m − 1, each holding the codeword position of its ESI, returns the source position — GF(2^8) -/
theorem C01_rs_interpolate_sound_gf8 (k n : ℕ) (hk : k ≤ n) (hn : n ≤ 255) (src : ℕ → GF8.GF256) (recv : List (ℕ × GF8.GF256))
    (hnd : (recv.map (·.1)).Nodup) (hlt : ∀ p ∈ recv, p.1 < n) (hlen : recv.length = k)
    (hval : ∀ p ∈ recv, p.2 = GF8.modelx.cwModel k src p.1) (j : ℕ) (hj : j < k) :
    RS.interpolate RS.fld8x GF8.modelx.fieldOps recv j = src j :=
  GF8.modelx.interpolate_correct k n hn hk src recv hnd hlt hlen hval j hj

/-- … GF(2^4) -/
theorem C01_rs_interpolate_sound_gf4 (k n : ℕ) (hk : k ≤ n) (hn : n ≤ 15) (src : ℕ → GF4.GF16) (recv : List (ℕ × GF4.GF16))
    (hnd : (recv.map (·.1)).Nodup) (hlt : ∀ p ∈ recv, p.1 < n) (hlen : recv.length = k)
    (hval : ∀ p ∈ recv, p.2 = GF4.modelx.cwModel k src p.1) (j : ℕ) (hj : j < k) :
    RS.interpolate RS.fld4x GF4.modelx.fieldOps recv j = src j :=
  GF4.modelx.interpolate_correct k n hn hk src recv hnd hlt hlen hval j hj
