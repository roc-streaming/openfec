/-
Total maps `Nat → α` with a default, backed by an array: O(1) access in the compiled model and the
function-update law `get (set m k v) k' = if k' = k then v else get m k'` without side conditions
(`set` grows the array when needed), so that proofs read as if the state were a function.
-/
structure TMap (α : Type) where
  arr : Array α
  dflt : α

namespace TMap
variable {α : Type}

def mk' (d : α) : TMap α := ⟨#[], d⟩
def ofList (l : List α) (d : α) : TMap α := ⟨l.toArray, d⟩
def const (n : Nat) (v d : α) : TMap α := ⟨Array.replicate n v, d⟩

def get (m : TMap α) (i : Nat) : α := m.arr.getD i m.dflt

def grow (a : Array α) (d : α) : Nat → Array α
  | 0 => a
  | n+1 => grow (a.push d) d n

theorem grow_size (a : Array α) (d : α) (n : Nat) : (grow a d n).size = a.size + n := by
  induction n generalizing a with
  | zero => rfl
  | succ n ih => simp [grow, ih]; omega

theorem grow_getD (a : Array α) (d : α) (n i : Nat) : (grow a d n).getD i d = a.getD i d := by
  induction n generalizing a with
  | zero => rfl
  | succ n ih =>
    simp only [grow, ih]
    simp only [Array.getD_eq_getD_getElem?, Array.getElem?_push]
    by_cases h : i = a.size
    · subst h; simp
    · simp [h]

def set (m : TMap α) (i : Nat) (v : α) : TMap α :=
  if i < m.arr.size then ⟨m.arr.setIfInBounds i v, m.dflt⟩
  else ⟨(grow m.arr m.dflt (i + 1 - m.arr.size)).setIfInBounds i v, m.dflt⟩

@[simp] theorem set_dflt (m : TMap α) (i : Nat) (v : α) : (m.set i v).dflt = m.dflt := by
  unfold set; split <;> rfl

theorem getD_setIfInBounds {a : Array α} {i : Nat} (h : i < a.size) (j : Nat) (v d : α) :
    (a.setIfInBounds i v).getD j d = if j = i then v else a.getD j d := by
  simp only [Array.getD_eq_getD_getElem?, Array.getElem?_setIfInBounds, h, if_true, eq_comm (a := i)]
  split <;> rfl

theorem get_set (m : TMap α) (i j : Nat) (v : α) :
    (m.set i v).get j = if j = i then v else m.get j := by
  unfold set get
  by_cases h : i < m.arr.size
  · rw [if_pos h]
    exact getD_setIfInBounds h j v m.dflt
  · rw [if_neg h]
    have hi : i < (grow m.arr m.dflt (i + 1 - m.arr.size)).size := by rw [grow_size]; omega
    have := getD_setIfInBounds hi j v m.dflt
    rwa [grow_getD] at this

@[simp] theorem get_set_same (m : TMap α) (i : Nat) (v : α) : (m.set i v).get i = v := by
  rw [get_set]; simp

theorem get_set_ne (m : TMap α) {i j : Nat} (v : α) (h : j ≠ i) : (m.set i v).get j = m.get j := by
  rw [get_set]; simp [h]

theorem get_set_fun (m : TMap α) (i : Nat) (v : α) : (m.set i v).get = fun x => if x = i then v else m.get x :=
  funext fun x => get_set m i x v

theorem mk'_get (d : α) (i : Nat) : (mk' d).get i = d := by simp [mk', get]

theorem ofList_get (l : List α) (d : α) (i : Nat) : (ofList l d).get i = l.getD i d := by
  simp [ofList, get, Array.getD_eq_getD_getElem?, List.getD_eq_getElem?_getD]

/-- a run of writes read at `e`: untouched if no write went to `e`, otherwise the value of one of the writes to `e` -/
theorem get_foldl_set {β : Type} (key : β → Nat) (val : β → α) (l : List β) (m : TMap α) (e : Nat) :
    (l.foldl (fun m x => m.set (key x) (val x)) m).get e = m.get e ∧ (∀ x ∈ l, key x ≠ e)
      ∨ ∃ x ∈ l, key x = e ∧ (l.foldl (fun m x => m.set (key x) (val x)) m).get e = val x := by
  induction l generalizing m with
  | nil => exact .inl ⟨rfl, fun _ h => nomatch h⟩
  | cons a t ih =>
    rw [List.foldl_cons]
    rcases ih (m.set (key a) (val a)) with ⟨h, hn⟩ | ⟨x, hx, hk, h⟩
    · by_cases ha : key a = e
      · exact .inr ⟨a, List.mem_cons_self, ha, by rw [h, ← ha, get_set_same]⟩
      · exact .inl ⟨by rw [h, get_set_ne _ _ (Ne.symm ha)], List.forall_mem_cons.mpr ⟨ha, hn⟩⟩
    · exact .inr ⟨x, List.mem_cons_of_mem _ hx, hk, h⟩

theorem get_foldl_set_of_not_mem {β : Type} {key : β → Nat} {val : β → α} {l : List β} {e : Nat} (h : ∀ x ∈ l, key x ≠ e)
    (m : TMap α) : (l.foldl (fun m x => m.set (key x) (val x)) m).get e = m.get e := by
  rcases get_foldl_set key val l m e with ⟨h', _⟩ | ⟨x, hx, hk, _⟩
  · exact h'
  · exact absurd hk (h x hx)

/-- … in particular when the keys are the list's own elements -/
theorem get_foldl_set_other {f : Nat → α} {l : List Nat} {e : Nat} (h : e ∉ l) (m : TMap α) :
    (l.foldl (fun (m : TMap α) x => m.set x (f x)) m).get e = m.get e :=
  get_foldl_set_of_not_mem (key := id) (fun _ hx (he : _ = e) => h (he ▸ hx)) m

/-- … and with injective keys the write is determined -/
theorem get_foldl_set_of_mem {β : Type} {key : β → Nat} {val : β → α} {l : List β} {x : β} (hx : x ∈ l)
    (hinj : ∀ y ∈ l, key y = key x → y = x) (m : TMap α) :
    (l.foldl (fun m x => m.set (key x) (val x)) m).get (key x) = val x := by
  rcases get_foldl_set key val l m (key x) with ⟨_, hn⟩ | ⟨y, hy, hk, h⟩
  · exact absurd rfl (hn x hx)
  · exact hinj y hy hk ▸ h

end TMap
