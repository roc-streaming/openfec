/-
Specification of GF(2^m) arithmetic as GF(2)[x]/(p) at bit level, from first principles
(carry-less "shift and add" multiplication with reduction by the primitive polynomial).
Core Lean only.
-/
namespace GF

/-- multiply by x modulo `poly` (which includes the x^m term) -/
def xtime (m poly a : Nat) : Nat :=
  let s := 2 * a
  if s < 2 ^ m then s else s ^^^ poly

/-- shift-and-add multiplication, `fuel` = number of bits of `b` still to examine -/
def mulGo (m poly : Nat) : Nat → Nat → Nat → Nat
  | 0, _, _ => 0
  | n+1, a, b => (if b % 2 = 1 then a else 0) ^^^ mulGo m poly n (xtime m poly a) (b / 2)

def mul (m poly a b : Nat) : Nat := mulGo m poly m a b

/-- x^i in the field -/
def xpow (m poly : Nat) : Nat → Nat
  | 0 => 1
  | i+1 => xtime m poly (xpow m poly i)

def poly4 : Nat := 0x13    -- x^4 + x + 1
def poly8 : Nat := 0x11D   -- x^8 + x^4 + x^3 + x^2 + 1

def mul4 (a b : Nat) : Nat := mul 4 poly4 a b
def mul8 (a b : Nat) : Nat := mul 8 poly8 a b
def xpow4 (i : Nat) : Nat := xpow 4 poly4 i
def xpow8 (i : Nat) : Nat := xpow 8 poly8 i

/-- entry `j` of a packed table row -/
def unpack (bits row j : Nat) : Nat := (row >>> (bits * j)) % 2 ^ bits

/-- entry (i, j) of a packed table -/
def entry (bits : Nat) (tab : List Nat) (i j : Nat) : Nat := unpack bits (tab.getD i 0) j

/-- bounded universal quantifier as a Bool, usable with `decide +kernel` -/
def allLT (n : Nat) (p : Nat → Bool) : Bool := (List.range n).all p

theorem allLT_spec {n : Nat} {p : Nat → Bool} (h : allLT n p = true) : ∀ i, i < n → p i = true := by
  intro i hi
  unfold allLT at h
  rw [List.all_eq_true] at h
  exact h i (List.mem_range.2 hi)

/-- rows `lo ≤ a < lo+cnt` of a multiplication table agree with `f` on columns < `cols` -/
def chkMulRows (bits : Nat) (tab : List Nat) (f : Nat → Nat → Nat) (cols lo cnt : Nat) : Bool :=
  (List.range' lo cnt).all fun a =>
    let row := tab.getD a 0
    allLT cols fun b => unpack bits row b == f a b

theorem chkMulRows_spec {bits : Nat} {tab : List Nat} {f : Nat → Nat → Nat} {cols lo cnt : Nat}
    (h : chkMulRows bits tab f cols lo cnt = true) :
    ∀ a b, lo ≤ a → a < lo + cnt → b < cols → entry bits tab a b = f a b := by
  intro a b h1 h2 h3
  unfold chkMulRows at h
  rw [List.all_eq_true] at h
  have := h a (by rw [List.mem_range'_1]; exact ⟨h1, h2⟩)
  have := allLT_spec this b h3
  simpa [entry] using this

/-- exp table: entry i is x^(i mod (2^m - 1)) for every index of the table -/
def chkExp (bits : Nat) (tab : List Nat) (len m poly : Nat) : Bool :=
  let row := tab.getD 0 0
  allLT len fun i => unpack bits row i == xpow m poly (i % (2 ^ m - 1))

/-- log table on field elements: sentinel at 0, otherwise exp[log a] = a and log a < 2^m - 1 -/
def chkLog (lbits : Nat) (ltab : List Nat) (ebits : Nat) (etab : List Nat) (m : Nat) : Bool :=
  let lrow := ltab.getD 0 0
  let erow := etab.getD 0 0
  allLT (2 ^ m) fun a =>
    let l := unpack lbits lrow a
    if a == 0 then l == 2 ^ m - 1 else (decide (l < 2 ^ m - 1) && unpack ebits erow l == a)

/-- inverse table: inv[0] = 0, a * inv[a] = 1 -/
def chkInv (bits : Nat) (tab : List Nat) (m poly : Nat) : Bool :=
  let row := tab.getD 0 0
  allLT (2 ^ m) fun a =>
    let v := unpack bits row a
    if a == 0 then v == 0 else (decide (v < 2 ^ m) && mul m poly a v == 1)

theorem chkExp_spec {bits tab len m poly} (h : chkExp bits tab len m poly = true) :
    ∀ i, i < len → entry bits tab 0 i = xpow m poly (i % (2 ^ m - 1)) := by
  intro i hi
  simpa [entry] using allLT_spec h i hi

theorem chkLog_spec {lbits ltab ebits etab m} (h : chkLog lbits ltab ebits etab m = true) :
    (∀ a, 0 < a → a < 2 ^ m → entry lbits ltab 0 a < 2 ^ m - 1 ∧ entry ebits etab 0 (entry lbits ltab 0 a) = a) ∧
    entry lbits ltab 0 0 = 2 ^ m - 1 := by
  constructor
  · intro a h0 ha
    have := allLT_spec h a ha
    simp only [beq_false_of_ne (Nat.ne_of_gt h0), Bool.false_eq_true, if_false, Bool.and_eq_true, beq_iff_eq,
      decide_eq_true_eq] at this
    exact this
  · have := allLT_spec h 0 (Nat.two_pow_pos m)
    simpa [entry] using this

theorem chkInv_spec {bits tab m poly} (h : chkInv bits tab m poly = true) :
    (∀ a, 0 < a → a < 2 ^ m → mul m poly a (entry bits tab 0 a) = 1) ∧ entry bits tab 0 0 = 0 := by
  constructor
  · intro a h0 ha
    have := allLT_spec h a ha
    simp only [beq_false_of_ne (Nat.ne_of_gt h0), Bool.false_eq_true, if_false, Bool.and_eq_true, beq_iff_eq] at this
    exact this.2
  · have := allLT_spec h 0 (Nat.two_pow_pos m)
    simpa [entry] using this

/-- the packed two-nibble table of the GF(2^4) codec -/
def opt4 (c x : Nat) : Nat := ((mul4 c (x >>> 4)) <<< 4) ||| (mul4 c (x &&& 15))
end GF
