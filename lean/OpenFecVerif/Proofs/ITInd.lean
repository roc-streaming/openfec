import OpenFecVerif.Model.LdpcIT
/-!
The induction principle for the mutual recursion `IT.decode`/`IT.drain`, in terms of the decoder's elementary moves.
-/
namespace IT
variable {σ : Type} (O : Ops σ)

theorem known_store (s : St σ) (esi : Nat) (v : σ) :
    ({ s with sym := s.sym.set esi (some v) } : St σ).known = fun x => if x = esi then true else s.known x :=
  funext fun x => by simp only [St.known, TMap.get_set]; split <;> rfl

theorem inject_sym (s : St σ) (esi : Nat) (v : σ) (R : Nat) : (inject O s esi v R).1.sym = s.sym := by
  induction R with
  | zero => rfl
  | succ R ih => exact ih

/-- `P f` is what holds of the state whenever `drain f` is entered or left and when `decode f` returns; `Pre f` is what `decode f` may
assume.  They differ because between noting a symbol as decoded and storing it (the first thing the nested call does) the state is
not one a caller may see; the fuel is an index because `decode 0` stores nothing.  Five obligations, each about a single move: a
call that returns at once (`ret`), storing the symbol (`store`), accounting it in one equation (`row`), retiring an equation with one
entry left, which sets up the nested call (`peel`), and returning to a caller that has more fuel (`up`). -/
theorem decode_drain_hoare {P : Nat → St σ → Prop} {Pre : Nat → St σ → Nat → σ → Prop}
    (ret : ∀ f s esi v, Pre f s esi v → f = 0 ∨ s.known esi = true → P f s)
    (store : ∀ f s esi v, Pre (f + 1) s esi v → s.known esi = false → P f { s with sym := s.sym.set esi (some v) })
    (row : ∀ f s esi v r, P f s → s.sym.get esi = some v → P f (injectRow O s esi v r).1)
    (peel : ∀ f s r e, P f s → s.rows.get r = [e] →
      Pre f (if (s.consume r).known e then s.consume r else { s.consume r with decoded := e :: (s.consume r).decoded }) e
        ((s.cterm.get r).getD O.zero))
    (up : ∀ f s, P f s → P (f + 1) s) :
    (∀ f s esi v, Pre f s esi v → P f (decode O f s esi v)) ∧ ∀ f s l, P f s → P f (drain O f s l) := by
  have inj : ∀ f s esi v, P f s → s.sym.get esi = some v → ∀ R, P f (inject O s esi v R).1 := by
    intro f s esi v hs hv R
    induction R with
    | zero => exact hs
    | succ R ih => exact row f _ esi v R ih (by rw [inject_sym]; exact hv)
  apply decode.mutual_induct O (fun f s esi v => Pre f s esi v → P f (decode O f s esi v)) (fun f s l => P f s → P f (drain O f s l))
  · intro s esi v h
    rw [decode]
    exact ret 0 s esi v h (Or.inl rfl)
  · intro s esi v f hk h
    rw [decode, if_pos hk]
    exact ret _ s esi v h (Or.inr hk)
  · intro s esi v f hk _ hc h
    rw [decode, if_neg hk, if_pos hc]
    exact up f _ (store f s esi v h (by simpa using hk))
  · intro s esi v f hk _ hc _ ih h
    rw [decode, if_neg hk, if_neg hc]
    exact up f _ (ih (inj f _ esi v (store f s esi v h (by simpa using hk)) (TMap.get_set_same ..) _))
  · intro f s hs
    rwa [drain]
  · intro f s r rest hc hs
    rwa [drain, if_pos hc]
  · intro f s r rest hc e he _ _ _ _ ih1 ih2 hs
    rw [drain, if_neg hc, he]
    exact ih2 (ih1 (peel f s r e hs he))
  · intro f s r rest hc hne ih hs
    rw [drain, if_neg hc]
    split
    · exact (hne _ ‹_›).elim
    · exact ih hs

theorem decode_k (fuel : Nat) (s : St σ) (esi : Nat) (v : σ) : (decode O fuel s esi v).k = s.k :=
  (decode_drain_hoare O (P := fun _ t => t.k = s.k) (Pre := fun _ t _ _ => t.k = s.k) (fun _ _ _ _ h _ => h)
    (fun _ _ _ _ h _ => h) (fun _ _ _ _ _ h _ => h) (fun _ _ _ _ h _ => by split <;> exact h) (fun _ _ h => h)).1 fuel s esi v rfl

end IT
