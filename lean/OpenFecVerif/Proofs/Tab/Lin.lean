import OpenFecVerif.Proofs.GF.Prim
/-!
A product table is xor-linear in the row index, so its first `2^(i+1)` rows are its first `2^i` rows followed by the same rows
xor-ed with row `2^i`.  It is therefore enough to compare the rows 1, 2, 4, … entry by entry with the product and, for each of
them, two halves of the table as lists of packed numbers (`chkMulLin`, `chkMulLin_spec`): for a 256 × 256 table 2048 products
instead of 65536.
-/
namespace GF

/-- no bit in common, so `|||` is `^^^` -/
theorem shl_or_eq_xor (a : Nat) {b i : Nat} (hb : b < 2 ^ i) : a <<< i ||| b = a <<< i ^^^ b := by
  apply Nat.eq_of_testBit_eq
  intro j
  rw [Nat.testBit_or, Nat.testBit_xor, Nat.testBit_shiftLeft]
  by_cases h : i ≤ j
  · rw [Nat.testBit_lt_two_pow (Nat.lt_of_lt_of_le hb (Nat.pow_le_pow_right (by decide) h))]; simp
  · simp [h]

theorem two_pow_xor {i l : Nat} (h : l < 2 ^ i) : 2 ^ i ^^^ l = 2 ^ i + l := by
  rw [← Nat.one_shiftLeft, ← shl_or_eq_xor 1 h, Nat.shiftLeft_add_eq_or_of_lt h]

/-- row 0 is zero; for `i < m` row `2^i` agrees with `f` entry by entry and rows `2^i … 2^(i+1) − 1` are rows `0 … 2^i − 1`
xor row `2^i` -/
def chkMulLin (bits : Nat) (tab : List Nat) (f : Nat → Nat → Nat) (cols m : Nat) : Bool :=
  tab.getD 0 0 == 0 && decide (2 ^ m ≤ tab.length) && allLT m fun i =>
    chkMulRows bits tab f cols (2 ^ i) 1 &&
    (tab.drop (2 ^ i)).take (2 ^ i) == (tab.take (2 ^ i)).map (· ^^^ tab.getD (2 ^ i) 0)

theorem unpack_xor (bits x y j : Nat) : unpack bits (x ^^^ y) j = unpack bits x j ^^^ unpack bits y j := by
  simp only [unpack, Nat.shiftRight_xor_distrib, Nat.xor_mod_two_pow]

theorem chkMulLin_spec {bits : Nat} {tab : List Nat} {f : Nat → Nat → Nat} {cols m : Nat}
    (f0 : ∀ b, f 0 b = 0) (fxor : ∀ a a' b, a < 2 ^ m → a' < 2 ^ m → f (a ^^^ a') b = f a b ^^^ f a' b)
    (h : chkMulLin bits tab f cols m = true) : ∀ a b, a < 2 ^ m → b < cols → entry bits tab a b = f a b := by
  simp only [chkMulLin, Bool.and_eq_true, beq_iff_eq, decide_eq_true_eq] at h
  obtain ⟨⟨h0, hlen⟩, hall⟩ := h
  -- by induction on the number of bits of the row index
  suffices ∀ i, i ≤ m → ∀ a b, a < 2 ^ i → b < cols → entry bits tab a b = f a b from this m (Nat.le_refl m)
  intro i
  induction i with
  | zero =>
    intro _ a b ha _
    obtain rfl : a = 0 := by omega
    rw [entry, h0, f0]; simp [unpack]
  | succ i ih =>
    intro hi a b ha hb
    by_cases hlt : a < 2 ^ i
    · exact ih (by omega) a b hlt hb
    have hrow := allLT_spec hall i hi
    simp only [Bool.and_eq_true, beq_iff_eq] at hrow
    have hbase := chkMulRows_spec hrow.1 (2 ^ i) b (Nat.le_refl _) (by omega) hb
    have hpow : 2 ^ i < 2 ^ m := Nat.pow_lt_pow_right (by omega) hi
    obtain ⟨l, rfl⟩ := Nat.exists_eq_add_of_le (Nat.le_of_not_lt hlt)
    have hl : l < 2 ^ i := by rw [Nat.pow_succ] at ha; omega
    have hlen' : 2 ^ i + l < tab.length := Nat.lt_of_lt_of_le ha (Nat.le_trans (Nat.pow_le_pow_right (by omega) hi) hlen)
    -- row `2^i + l` is entry `l` of the second half
    have e : tab.getD (2 ^ i + l) 0 = tab.getD l 0 ^^^ tab.getD (2 ^ i) 0 := by
      have := congrArg (·[l]?) hrow.2
      simpa [List.getD_eq_getElem?_getD, List.getElem?_take_of_lt hl, List.getElem?_drop, hlen',
        show l < tab.length by omega] using this
    rw [entry, e, unpack_xor, ← entry, ← entry, ih (by omega) l b hl hb, hbase, ← fxor _ _ _ (by omega) hpow,
      Nat.xor_comm, two_pow_xor hl]

end GF
