import OpenFecVerif.Proofs.Tab.Lin
import OpenFecVerif.Gen.Tab_of_gf_2_4_log
import OpenFecVerif.Gen.Tab_of_gf_2_4_exp
import OpenFecVerif.Gen.Tab_of_gf_2_4_inv
import OpenFecVerif.Gen.Tab_of_gf_2_4_mul_table
import OpenFecVerif.Gen.Tab_of_gf_2_4_opt_mul_table
import OpenFecVerif.Gen.Tab_of_gf_2_8_log
import OpenFecVerif.Gen.Tab_of_gf_2_8_exp
import OpenFecVerif.Gen.Tab_of_gf_2_8_inv
import OpenFecVerif.Gen.Tab_of_rs_gf_exp
import OpenFecVerif.Gen.Tab_of_rs_gf_log
import OpenFecVerif.Gen.Tab_of_rs_inverse
import OpenFecVerif.Gen.Limits
/-! All small tables, by kernel evaluation over their whole index range. -/
open GF Gen

/-- the packed table is xor-linear in the multiplier, as `chkMulLin_spec` asks -/
theorem GF.opt4_xor (c c' x : Nat) (hc : c < 2 ^ 4) (hc' : c' < 2 ^ 4) : opt4 (c ^^^ c') x = opt4 c x ^^^ opt4 c' x := by
  have hp : poly4 / 2 ^ 4 = 1 := by decide
  have key : ∀ c, c < 2 ^ 4 → opt4 c x = mul4 c (x >>> 4) <<< 4 ^^^ mul4 c (x &&& 15) :=
    fun c hc => shl_or_eq_xor _ (mul_lt hp _ hc)
  have add : ∀ b, mul4 (c ^^^ c') b = mul4 c b ^^^ mul4 c' b := fun b => mul_xor_left hp b hc hc'
  rw [key _ (Nat.xor_lt_two_pow hc hc'), key c hc, key c' hc', add, add, Nat.shiftLeft_xor_distrib]
  ac_rfl

namespace Tab
theorem shape4 : of_gf_2_4_mul_table_rows = 16 ∧ of_gf_2_4_mul_table_cols = 16 ∧ of_gf_2_4_opt_mul_table_rows = 16 ∧
    of_gf_2_4_opt_mul_table_cols = 256 ∧ of_gf_2_4_exp_cols = 16 ∧ of_gf_2_4_log_cols = 16 ∧ of_gf_2_4_inv_cols = 16 := by decide
theorem shape8 : of_gf_2_8_exp_cols = 256 ∧ 256 ≤ of_gf_2_8_log_cols ∧ of_gf_2_8_inv_cols = 256 := by decide
theorem shapeRs : of_rs_gf_exp_cols = 510 ∧ of_rs_gf_log_cols = 256 ∧ of_rs_inverse_cols = 256 ∧ RS_GF_BITS = 8 ∧
    RS_GF_SIZE = 255 ∧ RS_POLY = "101110001" := by decide
theorem Mul4 : chkMulRows 8 of_gf_2_4_mul_table mul4 16 0 16 = true := by decide +kernel
theorem Opt4 : chkMulLin 8 of_gf_2_4_opt_mul_table opt4 256 4 = true := by decide +kernel
theorem Exp4 : chkExp 8 of_gf_2_4_exp 16 4 poly4 = true := by decide +kernel
theorem Log4 : chkLog 8 of_gf_2_4_log 8 of_gf_2_4_exp 4 = true := by decide +kernel
theorem Inv4 : chkInv 8 of_gf_2_4_inv 4 poly4 = true := by decide +kernel
theorem Log8 : chkLog 32 of_gf_2_8_log 8 of_gf_2_8_exp 8 = true := by decide +kernel
theorem Exp8 : chkExp 8 of_gf_2_8_exp 256 8 poly8 = true := by decide +kernel
theorem Inv8 : chkInv 8 of_gf_2_8_inv 8 poly8 = true := by decide +kernel
theorem RsExp : chkExp 8 of_rs_gf_exp 510 8 poly8 = true := by decide +kernel
theorem RsLog : chkLog 32 of_rs_gf_log 8 of_rs_gf_exp 8 = true := by decide +kernel
-- the Reed-Solomon codec's table of inverses is the same list as the GF(2^8) codec's
theorem RsInv : chkInv 8 of_rs_inverse 8 poly8 = true := (by decide +kernel : of_rs_inverse = of_gf_2_8_inv) ▸ Inv8
theorem noOverflow : of_gf_2_8_log_overflow = [] ∧ of_rs_gf_log_overflow = [] := by decide
end Tab
