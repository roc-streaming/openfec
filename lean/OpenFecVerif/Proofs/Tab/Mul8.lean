import OpenFecVerif.Proofs.Tab.Lin
import OpenFecVerif.Gen.Tab_of_gf_2_8_mul_table
import OpenFecVerif.Gen.Tab_of_gf_mul_table
/-! The two 256 × 256 product tables of GF(2^8): the first through the checker for xor-linear tables; the Reed-Solomon codec's own
table is the same list of rows, so it is compared with the first instead of being checked again. -/
namespace Tab
open GF Gen
theorem Mul8 : chkMulLin 8 of_gf_2_8_mul_table mul8 256 8 = true := by decide +kernel
theorem Rs8Mul : chkMulLin 8 of_gf_mul_table mul8 256 8 = true :=
  (by decide +kernel : of_gf_mul_table = of_gf_2_8_mul_table) ▸ Mul8
end Tab
