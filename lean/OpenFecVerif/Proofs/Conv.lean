import OpenFecVerif.Proofs.DenseBits
import OpenFecVerif.Proofs.SparseInv
/-!
# Sparse <-> dense conversions agree with the set / bit-matrix reading
-/
namespace Dense
open Sparse

theorem ofSparse_dims (s : Sparse.M) (r : D) : (ofSparse s r).nr = r.nr ∧ (ofSparse s r).nc = r.nc := by
  unfold ofSparse
  split
  · exact ⟨rfl, rfl⟩
  · exact ⟨setCells_nr (fun _ _ => 1) _ _, setCells_nc (fun _ _ => 1) _ _⟩

/-- **of_mod2sparse_to_dense**: when the sparse matrix fits, the dense matrix ends up with exactly its entries -/
theorem bit_ofSparse {s : Sparse.M} {r : D} (hs : Sparse.Inv s) (hr : WF r) (hfit : s.nr ≤ r.nr ∧ s.nc ≤ r.nc) :
    WF (ofSparse s r) ∧ ∀ i j, bit (ofSparse s r) i j = true ↔ Sparse.Mem s i j := by
  have e : ofSparse s r = setCells (fun _ _ => 1) (Sparse.entries s) (clear r) := by
    unfold ofSparse; rw [if_neg (by omega)]; rfl
  rw [e]
  refine ⟨setCells_wf _ _ (clear_wf hr).1, fun i j => ?_⟩
  rw [bit_setCells _ _ (clear_wf hr).1, bit_clear]
  by_cases h : Sparse.Mem s i j
  · have hb := hs.bound i j h
    rw [if_pos ⟨(Sparse.mem_entries s i j).mpr ⟨hb.1, h⟩, Nat.lt_of_lt_of_le hb.1 hfit.1, Nat.lt_of_lt_of_le hb.2 hfit.2⟩]
    exact iff_of_true rfl h
  · rw [if_neg fun h' => h ((Sparse.mem_entries s i j).mp h'.1).2]
    exact iff_of_false Bool.false_ne_true h

/-- **of_mod2dense_to_sparse**: when the dense matrix fits, the sparse matrix ends up with exactly the one bits (whatever it held
before), and it satisfies the sparse invariant -/
theorem mem_toSparse {m : D} {r : Sparse.M} (hfit : m.nr ≤ r.nr ∧ m.nc ≤ r.nc) :
    Sparse.Inv (toSparse m r) ∧ ∀ i j, Sparse.Mem (toSparse m r) i j ↔ (i < m.nr ∧ j < m.nc ∧ bit m i j = true) := by
  unfold toSparse
  rw [if_neg (by omega)]
  -- two nested loops of guarded insertions
  have A := Adds.foldl (List.range m.nr) (fun a i =>
    Adds.foldl (List.range m.nc) (fun a j => (Adds.insert' a i j).ite (get m i j ≠ 0)) a) (Sparse.clear r)
  refine ⟨A.inv (Sparse.clear_inv r).1, fun i j => ?_⟩
  rw [A.mem]
  simp only [(Sparse.clear_inv r).2 i j, or_false, List.mem_range, ← decide_get, decide_eq_true_eq]
  constructor
  · rintro ⟨⟨i', hi, j', hj, hb, rfl, rfl⟩, _⟩; exact ⟨hi, hj, hb⟩
  · rintro ⟨hi, hj, hb⟩; exact ⟨⟨i, hi, j, hj, hb, rfl, rfl⟩, Nat.lt_of_lt_of_le hi hfit.1, Nat.lt_of_lt_of_le hj hfit.2⟩

end Dense
