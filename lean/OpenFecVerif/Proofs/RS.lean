import Mathlib.LinearAlgebra.Lagrange
import OpenFecVerif.Model.RS
/-!
# Reed-Solomon: the abstract code, the bridge to the executable model, the executable encoder and decoder

Abstract Reed-Solomon code over an arbitrary field `F` with pairwise distinct evaluation points
`v 0, …, v (n−1)`: the codeword of a message `src 0 … src (k−1)` is the evaluation of the unique
polynomial of degree < k through `(v i, src i)`, i < k.  Systematic; MDS.
-/
open Polynomial Finset

namespace RSA
variable {F : Type*} [Field F]

/-- message polynomial: the unique polynomial of degree < k through (v i, src i), i < k -/
noncomputable def msgPoly (k : ℕ) (v : ℕ → F) (src : ℕ → F) : F[X] :=
  Lagrange.interpolate (range k) v src

/-- codeword symbol i (one field position) -/
noncomputable def cw (k : ℕ) (v : ℕ → F) (src : ℕ → F) (i : ℕ) : F := (msgPoly k v src).eval (v i)

/-- the repair symbols are the generator combination Σ_i L_i(v r) · src i with L_i the Lagrange basis -/
theorem cw_eq_sum (k : ℕ) (v : ℕ → F) (src : ℕ → F) (r : ℕ) :
    cw k v src r = ∑ i ∈ range k, src i * (Lagrange.basis (range k) v i).eval (v r) := by
  simp [cw, msgPoly, Lagrange.interpolate_apply, eval_finsetSum]

theorem cw_systematic (k n : ℕ) (v : ℕ → F) (hv : Set.InjOn v (range n : Finset ℕ)) (hk : k ≤ n)
    (src : ℕ → F) (i : ℕ) (hi : i < k) : cw k v src i = src i :=
  Lagrange.eval_interpolate_at_node src (hv.mono (coe_subset.2 (range_mono hk))) (mem_range.2 hi)

/-- MDS: any k distinct received positions determine the message polynomial -/
theorem mds (k n : ℕ) (v : ℕ → F) (hv : Set.InjOn v (range n : Finset ℕ)) (hk : k ≤ n)
    (src : ℕ → F) (s : Finset ℕ) (hs : s ⊆ range n) (hcard : s.card = k) :
    Lagrange.interpolate s v (cw k v src) = msgPoly k v src := by
  refine (Lagrange.eq_interpolate_of_eval_eq _ (hv.mono (coe_subset.2 hs)) ?_ fun i _ => rfl).symm
  rw [hcard]
  simpa [msgPoly] using Lagrange.degree_interpolate_lt src (hv.mono (coe_subset.2 (range_mono hk)))

/-- … hence every source symbol -/
theorem mds_source (k n : ℕ) (v : ℕ → F) (hv : Set.InjOn v (range n : Finset ℕ)) (hk : k ≤ n)
    (src : ℕ → F) (s : Finset ℕ) (hs : s ⊆ range n) (hcard : s.card = k) (j : ℕ) (hj : j < k) :
    (Lagrange.interpolate s v (cw k v src)).eval (v j) = src j := by
  rw [mds k n v hv hk src s hs hcard]
  exact cw_systematic k n v hv hk src j hj

/-- fewer than k symbols never determine the block: a non-zero polynomial of degree < k vanishes at all their points, and adding
it to the message polynomial changes the message and none of them -/
theorem not_determined (k : ℕ) (v : ℕ → F) (s : Finset ℕ) (hcard : s.card < k) :
    ∃ p : F[X], p ≠ 0 ∧ p.degree < k ∧ ∀ i ∈ s, p.eval (v i) = 0 := by
  refine ⟨∏ i ∈ s, (X - C (v i)), ?_, ?_, ?_⟩
  · exact Finset.prod_ne_zero_iff.mpr fun i _ => X_sub_C_ne_zero _
  · rw [degree_prod]
    simp only [degree_X_sub_C, Finset.sum_const, nsmul_eq_mul, mul_one]
    exact_mod_cast hcard
  · intro i hi
    rw [eval_prod]
    exact Finset.prod_eq_zero hi (by simp)

end RSA

/-!
Bridge between the executable Reed-Solomon model (`RS.G`, `RS.basisAt` on naturals, with the field
operations of an `RS.Fld`) and the abstract Reed-Solomon code over a Mathlib field.
`FieldModel` says that the naturals below `N` with xor / `Fl.mul` / `Fl.inv` are a faithful copy of a field.
-/

structure FieldModel (F : Type) [Field F] [DecidableEq F] (Fl : RS.Fld) where
  N : ℕ
  φ : ℕ → F
  φ_inj : ∀ a b, a < N → b < N → φ a = φ b → a = b
  φ_zero : φ 0 = 0
  φ_one : φ 1 = 1
  φ_xor : ∀ a b, a < N → b < N → φ (a ^^^ b) = φ a + φ b
  φ_mul : ∀ a b, a < N → b < N → φ (Fl.mul a b) = φ a * φ b
  φ_inv : ∀ a, a < N → φ (Fl.inv a) = (φ a)⁻¹
  xor_lt : ∀ a b, a < N → b < N → a ^^^ b < N
  mul_lt : ∀ a b, a < N → b < N → Fl.mul a b < N
  inv_lt : ∀ a, a < N → Fl.inv a < N
  one_lt : 1 < N
  pt_lt : ∀ i, RS.pt Fl i < N
  /-- the evaluation points of the first N−1 encoding symbols are pairwise distinct -/
  pt_inj : ∀ i j, i < N - 1 → j < N - 1 → RS.pt Fl i = RS.pt Fl j → i = j

namespace FieldModel
variable {F : Type} [Field F] [DecidableEq F] {Fl : RS.Fld} (M : FieldModel F Fl)

/-- evaluation point of symbol i in the field -/
def v (i : ℕ) : F := M.φ (RS.pt Fl i)

theorem v_injOn (n : ℕ) (hn : n ≤ M.N - 1) : Set.InjOn M.v (range n : Finset ℕ) := by
  intro i hi j hj h
  simp only [coe_range, Set.mem_Iio] at hi hj
  have := M.φ_inj _ _ (M.pt_lt i) (M.pt_lt j) h
  exact M.pt_inj i j (by omega) (by omega) this

/-- the number `a` is in range and stands for the field element `x`; every operation of the model preserves this, so the bound and
the value of a compound expression are obtained together -/
def Rep (a : ℕ) (x : F) : Prop := a < M.N ∧ M.φ a = x

variable {M}

theorem Rep.mul {a b : ℕ} {x y : F} (ha : M.Rep a x) (hb : M.Rep b y) : M.Rep (Fl.mul a b) (x * y) :=
  ⟨M.mul_lt a b ha.1 hb.1, by rw [M.φ_mul a b ha.1 hb.1, ha.2, hb.2]⟩

theorem Rep.inv {a : ℕ} {x : F} (ha : M.Rep a x) : M.Rep (Fl.inv a) x⁻¹ :=
  ⟨M.inv_lt a ha.1, by rw [M.φ_inv a ha.1, ha.2]⟩

/-- characteristic two: `φ b + φ b = φ (b ^^^ b) = 0`, so xor is also subtraction -/
theorem Rep.xor {a b : ℕ} {x y : F} (ha : M.Rep a x) (hb : M.Rep b y) : M.Rep (a ^^^ b) (x - y) := by
  have h2 := M.φ_xor b b hb.1 hb.1
  rw [Nat.xor_self, M.φ_zero, hb.2] at h2
  exact ⟨M.xor_lt a b ha.1 hb.1, by rw [M.φ_xor a b ha.1 hb.1, ha.2, hb.2, sub_eq_add_neg, neg_eq_of_add_eq_zero_left h2.symm]⟩

theorem Rep.prodL {l : List ℕ} {xs : List F} (h : List.Forall₂ M.Rep l xs) : M.Rep (RS.prodL Fl.mul l) xs.prod := by
  induction h with
  | nil => exact ⟨M.one_lt, M.φ_one⟩
  | cons h _ ih => rw [List.prod_cons]; exact h.mul ih

variable (M)

theorem rep_pt (i : ℕ) : M.Rep (RS.pt Fl i) (M.v i) := ⟨M.pt_lt i, rfl⟩

theorem rep_basisAt (nodes : List ℕ) (i : ℕ) {x : ℕ} {X : F} (hx : M.Rep x X) : M.Rep (RS.basisAt Fl nodes i x)
    ((nodes.filter (· != i)).map fun l => (X - M.v l) * (M.v i - M.v l)⁻¹).prod := by
  refine Rep.prodL ?_
  rw [RS.terms, List.forall₂_map_left_iff, List.forall₂_map_right_iff, List.forall₂_same]
  exact fun l _ => (hx.xor (M.rep_pt l)).mul ((M.rep_pt i).xor (M.rep_pt l)).inv

theorem basisAt_lt (nodes : List ℕ) (i x : ℕ) (hx : x < M.N) : RS.basisAt Fl nodes i x < M.N :=
  (M.rep_basisAt nodes i ⟨hx, rfl⟩).1

/-- the executable Lagrange coefficient is the Lagrange basis polynomial evaluated at the point -/
theorem φ_basisAt (nodes : List ℕ) (hnd : nodes.Nodup) (i x : ℕ) (hx : x < M.N) :
    M.φ (RS.basisAt Fl nodes i x) = (Lagrange.basis nodes.toFinset M.v i).eval (M.φ x) := by
  have hset : (nodes.filter (· != i)).toFinset = nodes.toFinset.erase i := by ext a; simp [and_comm]
  rw [(M.rep_basisAt nodes i ⟨hx, rfl⟩).2, Lagrange.basis, eval_prod, ← hset, List.prod_toFinset _ (hnd.filter _)]
  refine congrArg _ (List.map_congr_left fun l _ => ?_)
  rw [Lagrange.basisDivisor, eval_mul, eval_C, eval_sub, eval_X, eval_C, mul_comm]

/-- generator entries are the Lagrange (= systematic Vandermonde) coefficients -/
theorem φ_G (k r i : ℕ) :
    M.φ (RS.G Fl k r i) = (Lagrange.basis (range k) M.v i).eval (M.v r) := by
  rw [RS.G, M.φ_basisAt (List.range k) List.nodup_range i _ (M.pt_lt r), List.toFinset_range]
  rfl

/-- a codeword position computed with the model's generator: Σ_i G[r][i] · src i -/
noncomputable def cwModel (k : ℕ) (src : ℕ → F) (r : ℕ) : F := ∑ i ∈ range k, M.φ (RS.G Fl k r i) * src i

/-- the model's interpolation sum over any distinct nodes, at any point, is the value of the interpolating polynomial: the
encoder (nodes `0 … k−1`) and the decoder (the received ESIs) are its two uses -/
theorem sum_basisAt (nodes : List ℕ) (hnd : nodes.Nodup) (y : ℕ → F) (x : ℕ) (hx : x < M.N) :
    (nodes.map fun s => M.φ (RS.basisAt Fl nodes s x) * y s).sum = (Lagrange.interpolate nodes.toFinset M.v y).eval (M.φ x) := by
  rw [Lagrange.interpolate_apply, eval_finsetSum, List.sum_toFinset _ hnd]
  exact congrArg _ (List.map_congr_left fun s _ => by rw [M.φ_basisAt nodes hnd s x hx, eval_mul, eval_C, mul_comm])

theorem cwModel_eq (k : ℕ) (src : ℕ → F) (r : ℕ) : M.cwModel k src r = RSA.cw k M.v src r := by
  rw [cwModel, RSA.cw, RSA.msgPoly, ← List.toFinset_range, List.sum_toFinset _ List.nodup_range]
  exact M.sum_basisAt _ List.nodup_range src _ (M.pt_lt r)

theorem cwModel_systematic (k n : ℕ) (hn : n ≤ M.N - 1) (hk : k ≤ n) (src : ℕ → F) (i : ℕ) (hi : i < k) :
    M.cwModel k src i = src i :=
  (M.cwModel_eq k src i).trans (RSA.cw_systematic k n _ (M.v_injOn n hn) hk src i hi)

/-- decoding with the model's interpolation coefficients from any k distinct symbols (ESIs in `S`)
returns every source symbol: Σ_{s∈S} L_{S,s}(pt j) · cw s = src j -/
theorem decode_correct (k n : ℕ) (hn : n ≤ M.N - 1) (hk : k ≤ n) (src : ℕ → F)
    (S : List ℕ) (hnd : S.Nodup) (hS : ∀ s ∈ S, s < n) (hlen : S.length = k) (j : ℕ) (hj : j < k) :
    (S.map fun s => M.φ (RS.basisAt Fl S s (RS.pt Fl j)) * M.cwModel k src s).sum = src j := by
  rw [M.sum_basisAt S hnd _ _ (M.pt_lt j), funext (M.cwModel_eq k src)]
  exact RSA.mds_source k n M.v (M.v_injOn n hn) hk src S.toFinset (fun s hs => mem_range.2 (hS s (List.mem_toFinset.1 hs)))
    (by rw [List.toFinset_card_of_nodup hnd, hlen]) j hj

/-!
### The executable Reed-Solomon encoder and decoder functions, over one field position

`RS.encode` and `RS.interpolate` (Model/RS.lean) are what the session model calls.  Instantiated with the symbol type `F` (one field
position; a symbol is a vector of positions and every operation acts position-wise) and the operations `fieldOps`, they are the
algebraic expressions of the MDS theorems: `RS.encode` is the codeword of `cwModel`, and `RS.interpolate` on any k distinct symbols of
a codeword returns the source position.
-/

/-- symbol operations on one field position: addition, and scaling by the field element a natural number stands for -/
def fieldOps : Ops F := ⟨0, (· + ·), fun c x => M.φ c * x⟩

/-- a zero coefficient contributes nothing, so skipping it is no special case: `lincomb` is the plain sum -/
theorem lincomb_map {α : Type} (l : List α) (f : α → ℕ) (g : α → F) :
    RS.lincomb M.fieldOps (l.map f) (l.map g) = (l.map fun a => M.φ (f a) * g a).sum := by
  have step : (fun (acc : F) (p : ℕ × F) => if p.1 = 0 then acc else M.fieldOps.add acc (M.fieldOps.smul p.1 p.2))
      = fun acc p => acc + M.φ p.1 * p.2 := by
    funext acc p
    split
    · next h => rw [h, M.φ_zero, zero_mul, add_zero]
    · rfl
  rw [RS.lincomb, step, List.zip_map', List.foldl_map, List.sum_eq_foldl, List.foldl_map]
  rfl

/-- the encoder function computes the codeword of the MDS theorems -/
theorem encode_eq (k : ℕ) (src : List F) (hs : src.length = k) (r : ℕ) :
    RS.encode Fl M.fieldOps k src r = M.cwModel k (fun i => src.getD i 0) r := by
  have : src = (List.range k).map fun i => src.getD i 0 := List.ext_getElem (by simp [hs]) fun i h _ => by simp [h]
  rw [RS.encode, cwModel, ← List.toFinset_range, List.sum_toFinset _ List.nodup_range, ← lincomb_map, ← this]

/-- **the decoder function is right**: interpolating any k received symbols with distinct ESIs below n, each holding the codeword
position of its ESI, returns the source position j -/
theorem interpolate_correct (k n : ℕ) (hn : n ≤ M.N - 1) (hk : k ≤ n) (src : ℕ → F) (recv : List (ℕ × F))
    (hnd : (recv.map (·.1)).Nodup) (hlt : ∀ p ∈ recv, p.1 < n) (hlen : recv.length = k)
    (hval : ∀ p ∈ recv, p.2 = M.cwModel k src p.1) (j : ℕ) (hj : j < k) :
    RS.interpolate Fl M.fieldOps recv j = src j := by
  rw [← M.decode_correct k n hn hk src (recv.map (·.1)) hnd (by simpa using hlt) (by simpa using hlen) j hj,
    RS.interpolate, List.map_map, lincomb_map, List.map_map]
  exact congrArg _ (List.map_congr_left fun p hp => by rw [hval p hp]; rfl)

end FieldModel
