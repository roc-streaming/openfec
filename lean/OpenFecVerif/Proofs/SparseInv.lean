import OpenFecVerif.Model.Sparse
/-!
Invariant and set semantics of the sparse-matrix model (`Model/Sparse.lean`).

`insert` and `delete` both replace one row and one column; what the new lists hold is said once for a family of lists (`mem_set_ins`,
`mem_set_erase`) and read on the rows and, with the two indexes exchanged, on the columns: both then list the same relation, which
is all that `Inv.update` asks.
Every copy operation is a (nested, guarded) loop of `insert'`; `Adds S a b` says what such a loop does to its destination and is
closed under `List.foldl`, so no copy operation needs an induction of its own.
-/
namespace Sparse

def Sorted (l : List Nat) : Prop := l.Pairwise (· < ·)

theorem Sorted.nodup {l : List Nat} (h : Sorted l) : l.Nodup := List.Pairwise.imp Nat.ne_of_lt h

/-- the early exit of every scan: below the head of an increasing list nothing is found -/
theorem Sorted.not_mem_of_lt {y : Nat} {t : List Nat} (h : Sorted (y :: t)) {x : Nat} (hx : x < y) : x ∉ y :: t := by
  intro hm
  rcases List.mem_cons.mp hm with rfl | hm
  · exact Nat.lt_irrefl _ hx
  · exact Nat.lt_asymm hx (List.rel_of_pairwise_cons h hm)

theorem mem_ins (a x : Nat) (l : List Nat) : a ∈ ins x l ↔ a = x ∨ a ∈ l := by
  fun_induction ins x l <;> simp_all [or_left_comm]

theorem sorted_ins (x : Nat) {l : List Nat} (h : Sorted l) : Sorted (ins x l) := by
  fun_induction ins x l with
  | case1 => exact List.pairwise_singleton _ _
  | case2 y t hxy =>
    refine List.pairwise_cons.mpr ⟨fun a ha => ?_, h⟩
    rcases List.mem_cons.mp ha with rfl | ha
    · exact hxy
    · exact Nat.lt_trans hxy (List.rel_of_pairwise_cons h ha)
  | case3 => exact h
  | case4 y t h1 h2 ih =>
    refine List.pairwise_cons.mpr ⟨fun a ha => ?_, ih h.of_cons⟩
    rcases (mem_ins a x t).mp ha with rfl | ha
    · omega
    · exact List.rel_of_pairwise_cons h ha

theorem ins_of_mem {x : Nat} {l : List Nat} (hs : Sorted l) (h : x ∈ l) : ins x l = l := by
  fun_induction ins x l with
  | case1 => cases h
  | case2 y t hxy => exact absurd h (hs.not_mem_of_lt hxy)
  | case3 => rfl
  | case4 y t h1 h2 ih => rw [ih hs.of_cons ((List.mem_cons.mp h).resolve_left h2)]

theorem length_ins {x : Nat} {l : List Nat} (h : x ∉ l) : (ins x l).length = l.length + 1 := by
  fun_induction ins x l <;> simp_all

theorem le_getLast {l : List Nat} (h : Sorted l) {z : Nat} (hz : l.getLast? = some z) : ∀ a ∈ l, a ≤ z := by
  obtain ⟨ys, rfl⟩ := List.getLast?_eq_some_iff.mp hz
  intro a ha
  rcases List.mem_append.mp ha with ha | ha
  · exact Nat.le_of_lt ((List.pairwise_append.mp h).2.2 a ha z (List.mem_singleton_self z))
  · exact Nat.le_of_eq (List.mem_singleton.mp ha)

theorem findPar_eq (r c : Nat) (xs ys : List Nat) (hxs : Sorted xs) (hys : Sorted ys) (hiff : c ∈ xs ↔ r ∈ ys) :
    findPar r c xs ys = true ↔ c ∈ xs := by
  fun_induction findPar r c xs ys with
  | case1 => simp
  | case2 x xs ys h => simpa using hxs.not_mem_of_lt h
  | case3 xs ys => simp
  | case4 x xs _ _ => simpa using hiff
  | case5 x xs _ _ y ys h => simpa using fun e => hys.not_mem_of_lt h (hiff.mp e)
  | case6 x xs _ _ ys _ => simpa using hiff.mpr List.mem_cons_self
  | case7 x xs _ hx y ys _ hy ih =>
    have hcx : c ∈ x :: xs ↔ c ∈ xs := by simp [Ne.symm hx]
    have hry : r ∈ y :: ys ↔ r ∈ ys := by simp [Ne.symm hy]
    rw [hcx]; exact ih hxs.of_cons hys.of_cons (by rw [← hcx, ← hry]; exact hiff)

/-- The test `find` makes first on the row and then, in the same way, on the column: compare with the last entry, and only if that
is larger go on to `rest`.  (`o` stands for `l.getLast?`, so that the `match` of `find` can be met as it is written.) -/
theorem lastTest {l : List Nat} (h : Sorted l) (x : Nat) {rest : Bool} (hrest : rest = true ↔ x ∈ l) :
    ∀ o, l.getLast? = o → ((match o with
      | none => false
      | some z => if z < x then false else if z = x then true else rest) = true ↔ x ∈ l)
  | none, hl => by simp [List.getLast?_eq_none_iff.mp hl]
  | some z, hz => by
    show (if z < x then false else if z = x then true else rest) = true ↔ x ∈ l
    split
    · exact ⟨nofun, fun e => by have := le_getLast h hz x e; omega⟩
    split
    next e => exact e ▸ ⟨fun _ => List.mem_of_getLast? hz, fun _ => rfl⟩
    · exact hrest

def count (m : M) : Nat := ((List.range m.nr).map fun i => (m.rows.get i).length).sum

structure Inv (m : M) : Prop where
  rows_sorted : ∀ r, Sorted (m.rows.get r)
  cols_sorted : ∀ c, Sorted (m.cols.get c)
  consistent : ∀ r c, c ∈ m.rows.get r ↔ r ∈ m.cols.get c
  bound : ∀ r c, c ∈ m.rows.get r → r < m.nr ∧ c < m.nc
  pool : m.pool.free + count m = blockSize * m.pool.blocks

/-- membership in the abstract set of (row, column) pairs -/
def Mem (m : M) (r c : Nat) : Prop := c ∈ m.rows.get r

theorem find_iff_mem {m : M} (h : Inv m) (r c : Nat) : find m r c = true ↔ Mem m r c := by
  have hrc := h.consistent r c
  unfold find Mem
  -- not `split`: with the `match`es of `find` in the goal it costs four times what the rest of this proof does
  by_cases h1 : r ≥ m.nr ∨ c ≥ m.nc
  · rw [if_pos h1]; exact ⟨nofun, fun e => by have := h.bound r c e; omega⟩
  · rw [if_neg h1]
    have par := (findPar_eq r c _ _ (h.rows_sorted r) (h.cols_sorted c) hrc).trans hrc
    have col := (lastTest (h.cols_sorted c) r par _ rfl).trans hrc.symm
    exact lastTest (h.rows_sorted r) c col _ rfl

theorem inv_empty (nr nc : Nat) : Inv { nr := nr, nc := nc } ∧ ∀ r c, ¬ Mem { nr := nr, nc := nc } r c := by
  refine ⟨⟨?_, ?_, ?_, ?_, ?_⟩, ?_⟩
  all_goals simp [Mem, Sorted, count, TMap.mk'_get, List.map_const', List.sum_replicate_nat]

theorem clear_inv (m : M) : Inv (clear m) ∧ ∀ r c, ¬ Mem (clear m) r c := inv_empty m.nr m.nc

theorem alloc_inv {nr nc : Nat} {m : M} (h : alloc nr nc = some m) : Inv m ∧ m.nr = nr ∧ m.nc = nc ∧ ∀ r c, ¬ Mem m r c := by
  unfold alloc at h
  split at h
  · cases h
  · cases h; exact ⟨(inv_empty nr nc).1, rfl, rfl, (inv_empty nr nc).2⟩

/-- replacing one row changes the entry count by the change of that row's length -/
theorem sum_lengths_set (t : TMap (List Nat)) (n r : Nat) (v : List Nat) (hr : r < n) :
    ((List.range n).map fun i => ((t.set r v).get i).length).sum + (t.get r).length
      = ((List.range n).map fun i => (t.get i).length).sum + v.length := by
  induction n with
  | zero => omega
  | succ n ih =>
    simp only [List.range_succ, List.map_append, List.sum_append, List.map_singleton, List.sum_singleton]
    by_cases h : n = r
    · -- below `r` nothing has changed
      have : ∀ i ∈ List.range n, ((t.set r v).get i).length = (t.get i).length := fun i hi => by
        rw [TMap.get_set_ne _ _ (Nat.ne_of_lt (h ▸ List.mem_range.mp hi))]
      rw [List.map_congr_left this, h, TMap.get_set_same]
      omega
    · rw [TMap.get_set_ne t v h]
      have := ih (by omega)
      omega

theorem sorted_get_set {t : TMap (List Nat)} (ht : ∀ i, Sorted (t.get i)) {k : Nat} {v : List Nat} (hv : Sorted v) (i : Nat) :
    Sorted ((t.set k v).get i) := by
  rw [TMap.get_set]; split
  · exact hv
  · exact ht i

theorem mem_set_ins (t : TMap (List Nat)) (k x i a : Nat) :
    a ∈ (t.set k (ins x (t.get k))).get i ↔ (i = k ∧ a = x) ∨ a ∈ t.get i := by
  rw [TMap.get_set]; split
  next e => rw [mem_ins, e, and_iff_right rfl]
  next e => exact (or_iff_right fun h => e h.1).symm

theorem mem_set_erase {t : TMap (List Nat)} {k : Nat} (hs : Sorted (t.get k)) (x i a : Nat) :
    a ∈ (t.set k ((t.get k).erase x)).get i ↔ a ∈ t.get i ∧ ¬ (i = k ∧ a = x) := by
  rw [TMap.get_set]; split
  next e => rw [hs.nodup.mem_erase_iff, e, and_iff_right rfl, and_comm]
  next e => exact (and_iff_left fun h => e h.1).symm

/-- What `insert` and `delete` both do: row `r` and column `c` are replaced by increasing lists, and afterwards the rows and the
columns list one and the same relation `Q` (which is what `consistent` asks for); the pool follows the length of the row. -/
theorem Inv.update {m : M} (h : Inv m) {r c : Nat} (hr : r < m.nr) {lr lc : List Nat} {p : Pool} {Q : Nat → Nat → Prop}
    (sr : Sorted lr) (sc : Sorted lc)
    (hrow : ∀ i j, j ∈ (m.rows.set r lr).get i ↔ Q i j) (hcol : ∀ i j, i ∈ (m.cols.set c lc).get j ↔ Q i j)
    (hQ : ∀ i j, Q i j → i < m.nr ∧ j < m.nc)
    (hp : p.free + count m + lr.length = blockSize * p.blocks + (m.rows.get r).length) :
    Inv { m with rows := m.rows.set r lr, cols := m.cols.set c lc, pool := p } where
  rows_sorted := sorted_get_set h.rows_sorted sr
  cols_sorted := sorted_get_set h.cols_sorted sc
  consistent i j := (hrow i j).trans (hcol i j).symm
  bound i j hm := hQ i j ((hrow i j).mp hm)
  pool := by
    have := sum_lengths_set m.rows m.nr r lr hr
    show p.free + ((List.range m.nr).map fun i => ((m.rows.set r lr).get i).length).sum = blockSize * p.blocks
    unfold count at hp
    omega

theorem Pool.take_free (p : Pool) : p.take.free + 1 + blockSize * p.blocks = p.free + blockSize * p.take.blocks := by
  unfold Pool.take
  split <;> simp only [blockSize] <;> omega

theorem insert_inv {m : M} (h : Inv m) (r c : Nat) : Inv (insert m r c).1 := by
  unfold insert
  split
  · exact h
  split
  · exact h
  next h1 h2 =>
    have hnot : c ∉ m.rows.get r := by simpa using h2
    refine h.update (Q := fun i j => (i = r ∧ j = c) ∨ Mem m i j) (by omega)
      (sorted_ins c (h.rows_sorted r)) (sorted_ins r (h.cols_sorted c)) (mem_set_ins m.rows r c)
      (fun i j => (mem_set_ins m.cols c r j i).trans (or_congr and_comm (h.consistent i j).symm))
      (fun i j hq => hq.elim (fun e => by omega) (h.bound i j)) ?_
    have := h.pool
    have := m.pool.take_free
    rw [length_ins hnot]; omega

theorem insert_out_of_range {m : M} (r c : Nat) (h : r ≥ m.nr ∨ c ≥ m.nc) : insert m r c = (m, none) := by
  unfold insert; simp [h]

/-- in range or not: a pair out of range is refused -/
theorem insert_mem (m : M) (r c i j : Nat) :
    Mem (insert m r c).1 i j ↔ ((i = r ∧ j = c) ∧ i < m.nr ∧ j < m.nc) ∨ Mem m i j := by
  unfold insert Mem
  split
  next h1 => exact ⟨Or.inr, fun h => h.elim (fun e => by omega) id⟩
  split
  next h1 h2 => exact ⟨Or.inr, fun h => h.elim (fun e => by rw [e.1.1, e.1.2]; simpa using h2) id⟩
  next h1 h2 => exact (mem_set_ins m.rows r c i j).trans (or_congr (iff_self_and.mpr fun e => by omega) Iff.rfl)

theorem insert_dims (m : M) (r c : Nat) : (insert m r c).1.nr = m.nr ∧ (insert m r c).1.nc = m.nc := by
  unfold insert
  split
  · exact ⟨rfl, rfl⟩
  · split <;> exact ⟨rfl, rfl⟩

/-- inserting an entry that is present changes nothing at all (not even the pool) -/
theorem insert_idem {m : M} (r c : Nat) : (insert (insert m r c).1 r c).1 = (insert m r c).1 := by
  by_cases h1 : r ≥ m.nr ∨ c ≥ m.nc
  · simp [insert_out_of_range r c h1]
  · have hmem : Mem (insert m r c).1 r c := (insert_mem m r c r c).mpr (Or.inl ⟨⟨rfl, rfl⟩, by omega, by omega⟩)
    have hdim := insert_dims m r c
    generalize (insert m r c).1 = m' at *
    unfold insert
    rw [if_neg (by omega), if_pos (by simpa [Mem] using hmem)]

theorem delete_inv {m : M} (h : Inv m) (r c : Nat) : Inv (delete m r c).1 := by
  unfold delete
  split
  next hf =>
    have hmem : c ∈ m.rows.get r := (find_iff_mem h r c).mp hf
    refine h.update (Q := fun i j => Mem m i j ∧ ¬ (i = r ∧ j = c)) (h.bound r c hmem).1
      (List.Pairwise.erase c (h.rows_sorted r)) (List.Pairwise.erase r (h.cols_sorted c)) (mem_set_erase (h.rows_sorted r) c)
      (fun i j => (mem_set_erase (h.cols_sorted c) r j i).trans (and_congr (h.consistent i j).symm (not_congr and_comm)))
      (fun i j hq => h.bound i j hq.1) ?_
    have := h.pool
    have := List.length_pos_of_mem hmem
    rw [List.length_erase_of_mem hmem]
    simp only [Pool.give]
    omega
  · exact h

/-- `b` is `a` with those pairs of `S` added that are in range: what every loop of insertions does to its destination.
Stated so that it composes: a loop of such steps is such a step (`Adds.foldl`), which takes care of nested loops. -/
structure Adds (S : Nat → Nat → Prop) (a b : M) : Prop where
  nr : b.nr = a.nr
  nc : b.nc = a.nc
  inv : Inv a → Inv b
  mem : ∀ i j, Mem b i j ↔ (S i j ∧ i < a.nr ∧ j < a.nc) ∨ Mem a i j

theorem Adds.insert' (m : M) (r c : Nat) : Adds (fun i j => i = r ∧ j = c) m (insert' m r c) :=
  ⟨(insert_dims m r c).1, (insert_dims m r c).2, fun h => insert_inv h r c, insert_mem m r c⟩

theorem Adds.ite {S : Nat → Nat → Prop} {a b : M} (A : Adds S a b) (p : Prop) [Decidable p] :
    Adds (fun i j => p ∧ S i j) a (if p then b else a) := by
  split
  next hp => exact ⟨A.nr, A.nc, A.inv, fun i j => by rw [A.mem, and_iff_right hp]⟩
  next hp => exact ⟨rfl, rfl, id, fun i j => (or_iff_right fun h => hp h.1.1).symm⟩

theorem Adds.foldl {β : Type} {g : M → β → M} {S : β → Nat → Nat → Prop} (L : List β)
    (hg : ∀ a x, Adds (S x) a (g a x)) (a : M) : Adds (fun i j => ∃ x ∈ L, S x i j) a (L.foldl g a) := by
  induction L generalizing a with
  | nil => exact ⟨rfl, rfl, id, fun i j => by simp⟩
  | cons x t ih =>
    have h1 := hg a x
    have h2 := ih (g a x)
    refine ⟨h2.nr.trans h1.nr, h2.nc.trans h1.nc, h2.inv ∘ h1.inv, fun i j => ?_⟩
    rw [List.foldl_cons, h2.mem, h1.mem, h1.nr, h1.nc]
    simp only [List.mem_cons, or_and_right, exists_or, exists_eq_left, or_assoc]
    exact or_left_comm

theorem foldl_insert_dims {α : Type} (f : α → Nat × Nat) (L : List α) (m : M) :
    (L.foldl (fun acc e => insert' acc (f e).1 (f e).2) m).nr = m.nr ∧ (L.foldl (fun acc e => insert' acc (f e).1 (f e).2) m).nc = m.nc :=
  have A := Adds.foldl L (fun a e => Adds.insert' a (f e).1 (f e).2) m
  ⟨A.nr, A.nc⟩

theorem mem_entries (m : M) (r c : Nat) : (r, c) ∈ entries m ↔ r < m.nr ∧ c ∈ m.rows.get r := by
  unfold entries
  simp only [List.mem_flatMap, List.mem_range, List.mem_map, Prod.mk.injEq]
  exact ⟨fun ⟨i, hi, a, ha, e1, e2⟩ => e1 ▸ e2 ▸ ⟨hi, ha⟩, fun ⟨hr, hc⟩ => ⟨r, hr, c, hc, rfl, rfl⟩⟩

theorem copy_inv (m r : M) (hr : Inv r) : Inv (copy m r) := by
  unfold copy
  split
  · exact hr
  · exact (Adds.foldl _ (fun a e => Adds.insert' a e.1 e.2) _).inv (clear_inv r).1

/-- the copy loops run their body on the longest prefix of valid indexes and then stop -/
theorem copyLoop_eq (n : Nat) (idx : List Nat) (lim : Nat) (body : M → Nat → Nat → M) (r : M) :
    copyLoop n idx lim body r
      = ((List.range n).takeWhile fun i => decide (idx.getD i 0 < lim)).foldl (fun acc i => body acc i (idx.getD i 0)) r := by
  unfold copyLoop
  generalize List.range n = L
  induction L generalizing r with
  | nil => rfl
  | cons a t ih =>
    rw [List.foldl_cons, List.takeWhile_cons, if_neg Bool.false_ne_true]
    by_cases ha : idx.getD a 0 < lim
    · rw [if_neg (Nat.not_le.mpr ha), decide_eq_true ha]
      exact ih _
    · rw [if_pos (Nat.not_lt.mp ha), decide_eq_false ha]
      -- once stopped, stopped
      clear ih
      induction t with
      | nil => rfl
      | cons b t ih => rw [List.foldl_cons, if_pos rfl]; exact ih

/-- with every index in range the copy loops never stop early -/
theorem takeWhile_valid {n : Nat} {idx : List Nat} {lim : Nat} (hv : ∀ i, i < n → idx.getD i 0 < lim) :
    ((List.range n).takeWhile fun i => decide (idx.getD i 0 < lim)) = List.range n := by
  have := List.takeWhile_append_of_pos (l₂ := []) (p := fun i => decide (idx.getD i 0 < lim))
    fun i hi => decide_eq_true (hv i (List.mem_range.mp hi))
  rwa [List.append_nil, List.takeWhile_nil, List.append_nil] at this

theorem Adds.copyLoop {idx : List Nat} {body : M → Nat → Nat → M} {S : Nat → Nat → Nat → Prop}
    (hb : ∀ a k, Adds (S k) a (body a k (idx.getD k 0))) (n lim : Nat) (r : M) :
    Adds (fun i j => ∃ k ∈ (List.range n).takeWhile fun k => decide (idx.getD k 0 < lim), S k i j) r
      (copyLoop n idx lim body r) := by
  rw [copyLoop_eq]; exact Adds.foldl _ hb r

theorem copyrows_inv (m r : M) (idx : List Nat) (hr : Inv r) : Inv (copyrows m r idx) := by
  unfold copyrows
  split
  · exact hr
  · exact (Adds.copyLoop (fun a i => Adds.foldl _ (fun a c => Adds.insert' a i c) a) _ _ _).inv (clear_inv r).1

theorem copycols_inv (m r : M) (idx : List Nat) (hr : Inv r) : Inv (copycols m r idx) := by
  unfold copycols
  split
  · exact hr
  · exact (Adds.copyLoop (fun a j => Adds.foldl _ (fun a e => Adds.insert' a e j) a) _ _ _).inv (clear_inv r).1

/-- of_mod2sparse_copyrows, any row list: row i of the result is row idx[i] of the source as long as no index up to the i-th is out
of range, and empty from there on -/
theorem copyrows_mem (m r : M) (idx : List Nat) (hm : Inv m) (hfit : m.nc ≤ r.nc) (i j : Nat) :
    Mem (copyrows m r idx) i j ↔
      i ∈ ((List.range r.nr).takeWhile fun i => decide (idx.getD i 0 < m.nr)) ∧ Mem m (idx.getD i 0) j := by
  unfold copyrows
  rw [if_neg (by omega),
    (Adds.copyLoop (fun a i => Adds.foldl (m.rows.get (idx.getD i 0)) (fun a c => Adds.insert' a i c) a) _ _ _).mem]
  simp only [(clear_inv r).2 i j, or_false]
  constructor
  · rintro ⟨⟨i', hi', c, hc, rfl, rfl⟩, _⟩; exact ⟨hi', hc⟩
  · rintro ⟨hi, hmem⟩
    exact ⟨⟨i, hi, j, hmem, rfl, rfl⟩, List.mem_range.mp (List.takeWhile_subset _ hi),
      Nat.lt_of_lt_of_le (hm.bound _ _ hmem).2 hfit⟩

/-- of_mod2sparse_copycols, any column list: column j of the result is column idx[j] of the source as long as no index up to the
j-th is out of range, and empty from there on -/
theorem copycols_mem (m r : M) (idx : List Nat) (hm : Inv m) (hfit : m.nr ≤ r.nr) (i j : Nat) :
    Mem (copycols m r idx) i j ↔
      j ∈ ((List.range r.nc).takeWhile fun j => decide (idx.getD j 0 < m.nc)) ∧ Mem m i (idx.getD j 0) := by
  unfold copycols
  rw [if_neg (by omega),
    (Adds.copyLoop (fun a j => Adds.foldl (m.cols.get (idx.getD j 0)) (fun a e => Adds.insert' a e j) a) _ _ _).mem]
  simp only [(clear_inv r).2 i j, or_false]
  constructor
  · rintro ⟨⟨j', hj', e, he, rfl, rfl⟩, _⟩; exact ⟨hj', (hm.consistent _ _).mpr he⟩
  · rintro ⟨hj, hmem⟩
    exact ⟨⟨j, hj, i, (hm.consistent _ _).mp hmem, rfl, rfl⟩, Nat.lt_of_lt_of_le (hm.bound _ _ hmem).1 hfit,
      List.mem_range.mp (List.takeWhile_subset _ hj)⟩

theorem Adds.copyFilled (m r : M) (ir ic : List Nat) :
    Adds (fun i j => ∃ e ∈ entries m, (!(m.cols.get e.2).isEmpty && !(m.rows.get e.1).isEmpty) = true ∧
      i = ir.getD e.1 0 ∧ j = ic.getD e.2 0) r (copyFilled m r ir ic) :=
  Adds.foldl _ (fun a _ => (Adds.insert' a _ _).ite _) r

theorem copyFilled_inv (m r : M) (ir ic : List Nat) (hr : Inv r) : Inv (copyFilled m r ir ic) :=
  (Adds.copyFilled m r ir ic).inv hr

end Sparse
