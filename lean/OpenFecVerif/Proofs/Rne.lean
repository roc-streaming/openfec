import OpenFecVerif.Proofs.FP
import Mathlib.Algebra.Order.Field.Power
/-!
# The executable rounding function of the model driver is in the binary64 standard model

`CSem.rne53` (round to nearest, ties to even, 53-bit significand, unbounded exponent) is what the compiled model `ofmodel`
uses wherever the C code computes in `double`.  It satisfies `RN53`: exact on integers below 2^53, relative error at most 2^-53.
So every theorem stated for all `RN53` operators holds for the model that is actually run against the library.

Membership needs less than correct rounding: for `a > 0` the value is `rnd (a / 2^e) · 2^e`, and all that is used of `rnd` is that it
moves its argument by at most 1/2 and fixes integers, all that is used of `e` is `2^52 ≤ a / 2^e` (`expo_spec`).  That the scaled
value is also below 2^53, and how ties are broken, plays no part.
-/
namespace RneProof
open CSem

theorem pow2_eq (e : ℤ) : pow2 e = (2 : ℚ) ^ e := by
  unfold pow2
  split
  · obtain ⟨n, rfl⟩ := Int.eq_ofNat_of_zero_le ‹_›
    rw [Int.toNat_natCast, zpow_natCast, Nat.cast_pow, Nat.cast_ofNat]
  · obtain ⟨n, rfl⟩ := Int.exists_eq_neg_ofNat (le_of_not_ge ‹_›)
    rw [neg_neg, Int.toNat_natCast, zpow_neg, zpow_natCast, one_div, Nat.cast_pow, Nat.cast_ofNat]

theorem pow2_pos (e : ℤ) : 0 < pow2 e := by rw [pow2_eq]; positivity

/-- the first guess of the exponent `e` such that 2^52 ≤ a / 2^e < 2^53 -/
def expo0 (a : ℚ) : ℤ := (Nat.log2 a.num.toNat : ℤ) - (Nat.log2 a.den : ℤ) - 52

/-- the exponent `rne53` settles on: the first guess, moved by one where the scaled value falls outside [2^52, 2^53) -/
def expo (a : ℚ) : ℤ :=
  if a / pow2 (expo0 a) < ((2 ^ 52 : ℕ) : ℚ) then expo0 a - 1
  else if ((2 ^ 53 : ℕ) : ℚ) ≤ a / pow2 (expo0 a) then expo0 a + 1 else expo0 a

/-- the nearest integer, ties to even -/
def rnd (s : ℚ) : ℤ :=
  if s - (Rat.floor s : ℚ) < 1 / 2 then Rat.floor s
  else if 1 / 2 < s - (Rat.floor s : ℚ) then Rat.floor s + 1
  else if Rat.floor s % 2 = 0 then Rat.floor s else Rat.floor s + 1

/-- the magnitude computed by `rne53` for a positive argument -/
def mant (a : ℚ) : ℚ := (rnd (a / pow2 (expo a)) : ℚ) * pow2 (expo a)

theorem rne53_eq (x : ℚ) : rne53 x = if x = 0 then 0 else if x < 0 then - mant (rabs x) else mant (rabs x) := rfl

theorem rnd_spec (s : ℚ) : |(rnd s : ℚ) - s| ≤ 1 / 2 := by
  have h1 : (⌊s⌋ : ℚ) ≤ s := Int.floor_le s
  have h2 : s < ⌊s⌋ + 1 := Int.lt_floor_add_one s
  have lo (h : s - ⌊s⌋ ≤ 1 / 2) : |((⌊s⌋ : ℤ) : ℚ) - s| ≤ 1 / 2 := by rwa [abs_sub_comm, abs_of_nonneg (sub_nonneg.mpr h1)]
  have hi (h : 1 / 2 ≤ s - ⌊s⌋) : |((⌊s⌋ + 1 : ℤ) : ℚ) - s| ≤ 1 / 2 := by
    rw [Int.cast_add, Int.cast_one, abs_of_nonneg (sub_nonneg.mpr h2.le)]; linarith
  unfold rnd
  rw [FP.floor_eq]
  split_ifs with ha hb
  exacts [lo ha.le, hi hb.le, lo (not_lt.mp hb), hi (not_lt.mp ha)]

theorem rnd_intCast (z : ℤ) : rnd (z : ℚ) = z := by
  unfold rnd
  simp only [FP.floor_eq, Int.floor_intCast, sub_self]
  norm_num

/-- `2^(log2 n) ≤ n` and `d < 2^(log2 d + 1)` put `a = n/d` above `2^(log2 n − log2 d − 1)` -/
theorem expo0_spec (a : ℚ) (ha : 0 < a) : (2 : ℚ) ^ 51 < a / 2 ^ expo0 a := by
  have hnum := Rat.num_pos.mpr ha
  have hn : ((2 ^ Nat.log2 a.num.toNat : ℕ) : ℚ) ≤ (a.num.toNat : ℕ) :=
    Nat.cast_le.mpr (Nat.log2_self_le (Int.lt_toNat.mpr (by exact_mod_cast hnum)).ne')
  have hd : ((a.den : ℕ) : ℚ) < (2 ^ (Nat.log2 a.den + 1) : ℕ) := Nat.cast_lt.mpr Nat.lt_log2_self
  have := div_lt_div₀' hn hd (lt_of_lt_of_le (by positivity) hn) (by exact_mod_cast a.den_pos)
  rw [show ((a.num.toNat : ℕ) : ℚ) = a.num by exact_mod_cast congrArg (Int.cast (R := ℚ)) (Int.toNat_of_nonneg hnum.le),
    Rat.num_div_den] at this
  rw [lt_div_iff₀ (by positivity)]
  convert this using 1
  unfold expo0
  rw [zpow_sub₀ two_ne_zero, zpow_sub₀ two_ne_zero, zpow_natCast, zpow_natCast, Nat.cast_pow, Nat.cast_pow, pow_succ]
  norm_num
  ring

theorem expo_spec (a : ℚ) (ha : 0 < a) : (2 : ℚ) ^ 52 ≤ a / 2 ^ expo a := by
  have h1 := expo0_spec a ha
  unfold expo
  rw [pow2_eq, Nat.cast_pow, Nat.cast_pow, Nat.cast_ofNat]
  split_ifs with h h'
  · rw [zpow_sub_one₀ two_ne_zero, div_mul_eq_div_div, div_inv_eq_mul]; linarith
  · rw [zpow_add_one₀ two_ne_zero, ← div_div]; linarith
  · exact not_lt.mp h

/-- core estimate: scaling by 2^e, rounding the scaled value to an integer within 1/2, and scaling back loses at most a/2^53 when
the scaled value is at least 2^52 -/
theorem round_core (a : ℚ) (e : ℤ) (q' : ℤ) (hs : (2 : ℚ) ^ 52 ≤ a / (2 : ℚ) ^ e) (hq : |(q' : ℚ) - a / (2 : ℚ) ^ e| ≤ 1 / 2) :
    |(q' : ℚ) * (2 : ℚ) ^ e - a| ≤ a / 2 ^ 53 := by
  have hp : (0 : ℚ) < (2 : ℚ) ^ e := by positivity
  obtain ⟨s, rfl⟩ : ∃ s, a = s * 2 ^ e := ⟨a / 2 ^ e, (div_mul_cancel₀ a hp.ne').symm⟩
  rw [mul_div_cancel_right₀ _ hp.ne'] at hs hq
  rw [← sub_mul, abs_mul, abs_of_pos hp, mul_div_right_comm]
  exact mul_le_mul_of_nonneg_right (hq.trans (by linarith)) hp.le

theorem mant_err (a : ℚ) (ha : 0 < a) : |mant a - a| ≤ a / 2 ^ 53 := by
  unfold mant
  rw [pow2_eq]
  exact round_core a _ _ (expo_spec a ha) (rnd_spec _)

theorem mant_int (m : ℤ) (hm : 0 < m) (hlt : m < 2 ^ 53) : mant (m : ℚ) = (m : ℚ) := by
  have h1 := expo_spec (m : ℚ) (by exact_mod_cast hm)
  unfold mant
  rw [pow2_eq]
  generalize expo (m : ℚ) = e at h1 ⊢
  have hp : (0 : ℚ) < 2 ^ e := by positivity
  -- e ≤ 0, because m < 2^53 while m / 2^e ≥ 2^52
  have he : e < 1 := (zpow_lt_zpow_iff_right₀ (one_lt_two (α := ℚ))).mp (by
    have := (le_div_iff₀ hp).mp h1
    have : (m : ℚ) < 2 ^ 53 := by exact_mod_cast hlt
    rw [zpow_one]; linarith)
  obtain ⟨j, rfl⟩ : ∃ j : ℕ, e = -(j : ℤ) := ⟨(-e).toNat, by omega⟩
  -- so the scaled value m · 2^j is an integer and is returned as it is
  rw [zpow_neg, zpow_natCast, div_inv_eq_mul, show (m : ℚ) * 2 ^ j = ((m * 2 ^ j : ℤ) : ℚ) by push_cast; rfl, rnd_intCast]
  push_cast
  exact mul_inv_cancel_right₀ (by positivity) _

theorem rne53_RN53 : RN53 CSem.rne53 := by
  -- `rne53` is odd, so its error at x is, up to the sign of x, that of `mant` at |x|
  have key (x : ℚ) (h0 : x ≠ 0) : ∃ σ : ℚ, |σ| = 1 ∧ rne53 x - x = σ * (mant |x| - |x|) := by
    rw [rne53_eq, if_neg h0, FP.rabs_eq]
    split
    · exact ⟨-1, by norm_num, by rw [abs_of_neg ‹_›]; ring⟩
    · exact ⟨1, abs_one, by rw [abs_of_nonneg (not_lt.mp ‹_›), one_mul]⟩
  constructor
  · intro m hm
    rcases eq_or_ne (m : ℚ) 0 with h0 | h0
    · rw [h0]; rfl
    obtain ⟨σ, -, hr⟩ := key _ h0
    rw [← Int.cast_abs, mant_int _ (abs_pos.mpr (by exact_mod_cast h0)) hm, sub_self, mul_zero] at hr
    exact sub_eq_zero.mp hr
  · intro x
    rcases eq_or_ne x 0 with rfl | h0
    · simp [rne53_eq]
    obtain ⟨σ, hσ, hr⟩ := key x h0
    rw [hr, abs_mul, hσ, one_mul]
    exact mant_err _ (abs_pos.mpr h0)

end RneProof
