import OpenFecVerif.Model.Dense
import OpenFecVerif.Proofs.ListHelper
/-!
The word-level dense-matrix model (`Model/Dense.lean`) against the plain bit-matrix reading.  A row of words is read as the
bit string `rbit l` (`bit m r = rbit (row of m at r)`); every list operation of the model (`List.set`, `zipWith`, `widen`)
has one lemma saying what it does to `rbit`.
-/
namespace Dense

/-- the bit-matrix reading of the packed words -/
def bit (m : D) (r c : Nat) : Bool := ((row m r).getD (c >>> 5) 0).testBit (c &&& 31)

theorem getbit_eq (w i : Nat) : getbit w i = (w.testBit i).toNat := by
  rw [Nat.toNat_testBit, getbit, Nat.and_one_is_mod, Nat.shiftRight_eq_div_pow]

theorem get_eq (m : D) (r c : Nat) : get m r c = (bit m r c).toNat := getbit_eq _ _

theorem decide_get (m : D) (r c : Nat) : decide (get m r c ≠ 0) = bit m r c := by
  rw [get_eq]; cases bit m r c <;> rfl

theorem W_eq : W = 2 ^ 32 := rfl

theorem tb_setbit1 (w i j : Nat) (hj : j < 32) :
    (setbit1 w i).testBit j = (w.testBit j || decide (i = j)) := by
  unfold setbit1
  rw [W_eq, Nat.testBit_mod_two_pow, Nat.testBit_or, Nat.one_shiftLeft, Nat.testBit_two_pow]
  simp [hj]

theorem tb_setbit0 (w i j : Nat) (hi : i < 32) (hj : j < 32) :
    (setbit0 w i).testBit j = (w.testBit j && !decide (i = j)) := by
  have h2 : 2 ^ i < 2 ^ 32 := Nat.pow_lt_pow_right (by decide) hi
  unfold setbit0
  -- the mask is 2^32 - (2^i + 1): the low 32 bits of the complement of 2^i
  rw [W_eq, Nat.one_shiftLeft, Nat.mod_eq_of_lt h2, Nat.sub_sub, Nat.add_comm 1, Nat.testBit_and,
    Nat.testBit_two_pow_sub_succ h2, Nat.testBit_two_pow]
  simp [hj]

theorem tb_newword (w i j v : Nat) (hi : i < 32) (hj : j < 32) :
    (if v ≠ 0 then setbit1 w i else setbit0 w i).testBit j = if i = j then decide (v ≠ 0) else w.testBit j := by
  by_cases hv : v ≠ 0
  · rw [if_pos hv, tb_setbit1 _ _ _ hj]
    by_cases e : i = j <;> simp [e, hv]
  · rw [if_neg hv, tb_setbit0 _ _ _ hi hj]
    by_cases e : i = j <;> simp [e, hv]

theorem setbit1_lt (w i : Nat) : setbit1 w i < W := by
  unfold setbit1; exact Nat.mod_lt _ (by decide)

theorem setbit0_lt (w i : Nat) (h : w < W) : setbit0 w i < W := by
  unfold setbit0; exact Nat.lt_of_le_of_lt Nat.and_le_left h

theorem shift5 (c : Nat) : c >>> 5 = c / 32 := by rw [Nat.shiftRight_eq_div_pow]
theorem and31 (c : Nat) : c &&& 31 = c % 32 := Nat.and_two_pow_sub_one_eq_mod c 5

/-- well-formedness: row length, word range, padding bits zero -/
structure WF (m : D) : Prop where
  nw_eq : m.nw = (m.nc + 31) / 32
  len : ∀ i, (row m i).length = m.nw
  lt : ∀ i, ∀ w ∈ row m i, w < W
  pad : ∀ i c, c ≥ m.nc → bit m i c = false

theorem word_lt {m : D} (h : WF m) {c : Nat} (hc : c < m.nc) : c / 32 < m.nw := by
  rw [h.nw_eq]; omega

def rbit (l : List Nat) (c : Nat) : Bool := (l[c / 32]?.getD 0).testBit (c % 32)

theorem bit_def (m : D) (r c : Nat) : bit m r c = rbit (row m r) c := by
  simp [bit, rbit, shift5, and31]

theorem rbit_getElem {l : List Nat} {k : Nat} (hk : k < l.length) (b : Nat) (hb : b < 32) :
    rbit l (32 * k + b) = l[k].testBit b := by
  rw [rbit, Nat.mul_add_div (by decide), Nat.mul_add_mod, Nat.div_eq_of_lt hb, Nat.mod_eq_of_lt hb, Nat.add_zero,
    List.getElem?_eq_getElem hk, Option.getD_some]

theorem forall_getD {P : Nat → Prop} {l : List Nat} (h0 : P 0) (h : ∀ w ∈ l, P w) (k : Nat) : P (l[k]?.getD 0) := by
  cases hk : l[k]? with
  | none => exact h0
  | some w => exact h w (List.mem_of_getElem? hk)

theorem row_setRow (m : D) (k : Nat) (l : List Nat) (i : Nat) :
    row { m with rows := m.rows.set k l } i = if i = k then l else row m i := TMap.get_set ..

theorem bit_setRow (m : D) (k : Nat) (l : List Nat) (i j : Nat) :
    bit { m with rows := m.rows.set k l } i j = if i = k then rbit l j else bit m i j := by
  rw [bit_def, bit_def, row_setRow]; split <;> rfl

theorem wf_setRow {m : D} (h : WF m) (k : Nat) {l : List Nat} (hlen : l.length = m.nw) (hlt : ∀ w ∈ l, w < W)
    (hpad : ∀ c, c ≥ m.nc → rbit l c = false) : WF { m with rows := m.rows.set k l } := by
  refine ⟨h.nw_eq, fun i => ?_, fun i => ?_, fun i c hc => ?_⟩
  · rw [row_setRow]; split
    · exact hlen
    · exact h.len i
  · rw [row_setRow]; split
    · exact hlt
    · exact h.lt i
  · rw [bit_setRow]; split
    · exact hpad c hc
    · exact h.pad i c hc

theorem getD_zeros (n k : Nat) : (zeros n)[k]?.getD 0 = 0 := by
  unfold zeros
  rw [List.getElem?_replicate]
  split <;> rfl

theorem rbit_zeros (n c : Nat) : rbit (zeros n) c = false := by
  rw [rbit, getD_zeros]; exact Nat.zero_testBit _

theorem bit_zeros {m : D} {n : Nat} (hrows : m.rows = TMap.mk' (zeros n)) (r c : Nat) : bit m r c = false := by
  rw [bit_def, row, hrows, TMap.mk'_get, rbit_zeros]

theorem wf_zeros {m : D} (hnw : m.nw = (m.nc + 31) / 32) (hrows : m.rows = TMap.mk' (zeros m.nw)) : WF m := by
  have hrow : ∀ i, row m i = zeros m.nw := fun i => by rw [row, hrows, TMap.mk'_get]
  refine ⟨hnw, fun i => ?_, fun i w hw => ?_, fun i c _ => bit_zeros hrows i c⟩
  · rw [hrow]; exact List.length_replicate
  · rw [hrow] at hw; rw [List.eq_of_mem_replicate hw]; decide

theorem bit_clear (m : D) (r c : Nat) : bit (clear m) r c = false := bit_zeros rfl r c

theorem clear_wf {m : D} (h : WF m) : WF (clear m) ∧ ∀ r c, bit (clear m) r c = false :=
  ⟨wf_zeros h.nw_eq rfl, bit_clear m⟩

theorem set'_nr (m : D) (r c v : Nat) : (set' m r c v).nr = m.nr := by unfold set' set; split <;> rfl
theorem set'_nc (m : D) (r c v : Nat) : (set' m r c v).nc = m.nc := by unfold set' set; split <;> rfl

theorem set_out_of_range (m : D) (r c v : Nat) (h : r ≥ m.nr ∨ c ≥ m.nc) : set m r c v = (m, false) := by
  unfold set; simp [h]

theorem set'_out {m : D} {r c : Nat} (v : Nat) (h : ¬ (r < m.nr ∧ c < m.nc)) : set' m r c v = m :=
  congrArg Prod.fst (set_out_of_range m r c v (by omega))

/-- the row that `of_mod2dense_set` writes back -/
def setw (l : List Nat) (c v : Nat) : List Nat :=
  l.set (c / 32) (if v ≠ 0 then setbit1 (l[c / 32]?.getD 0) (c % 32) else setbit0 (l[c / 32]?.getD 0) (c % 32))

theorem set'_eq {m : D} {r c : Nat} (hr : r < m.nr) (hc : c < m.nc) (v : Nat) :
    set' m r c v = { m with rows := m.rows.set r (setw (row m r) c v) } := by
  unfold set' set
  rw [if_neg (by omega)]
  simp [setw, shift5, and31]

theorem rbit_setw {l : List Nat} {c : Nat} (hk : c / 32 < l.length) (v c' : Nat) :
    rbit (setw l c v) c' = if c' = c then decide (v ≠ 0) else rbit l c' := by
  unfold rbit setw
  rw [List.getElem?_set]
  by_cases hw : c / 32 = c' / 32
  · rw [if_pos hw, if_pos hk, Option.getD_some, tb_newword _ _ _ _ (Nat.mod_lt _ (by decide)) (Nat.mod_lt _ (by decide)), hw]
    exact ListHelper.ite_iff (by omega) _ _
  · rw [if_neg hw, if_neg fun e => hw (by rw [e])]

theorem bit_set' {m : D} (h : WF m) (r c v r' c' : Nat) :
    bit (set' m r c v) r' c' = if (r' = r ∧ c' = c) ∧ r < m.nr ∧ c < m.nc then decide (v ≠ 0) else bit m r' c' := by
  by_cases hin : r < m.nr ∧ c < m.nc
  · rw [set'_eq hin.1 hin.2, bit_setRow]
    by_cases hr' : r' = r
    · subst hr'
      rw [if_pos rfl, rbit_setw ((h.len r').symm ▸ word_lt h hin.2), bit_def]
      exact ListHelper.ite_iff (by simp [hin]) _ _
    · rw [if_neg hr', if_neg fun e => hr' e.1.1]
  · rw [set'_out v hin, if_neg fun e => hin e.2]

theorem bit_set {m : D} (h : WF m) {r c : Nat} (hr : r < m.nr) (hc : c < m.nc) (v r' c' : Nat) :
    bit (set' m r c v) r' c' = if r' = r ∧ c' = c then decide (v ≠ 0) else bit m r' c' :=
  (bit_set' h r c v r' c').trans (ListHelper.ite_iff (and_iff_left ⟨hr, hc⟩) _ _)

theorem set_wf {m : D} (h : WF m) (r c v : Nat) : WF (set' m r c v) := by
  by_cases hin : r < m.nr ∧ c < m.nc
  · rw [set'_eq hin.1 hin.2]
    refine wf_setRow h r ((List.length_set ..).trans (h.len r)) (fun w hw => ?_) (fun c' hc' => ?_)
    · rcases List.mem_or_eq_of_mem_set hw with hw | rfl
      · exact h.lt r w hw
      · split
        · exact setbit1_lt _ _
        · exact setbit0_lt _ _ (forall_getD (by decide) (h.lt r) _)
    · rw [rbit_setw ((h.len r).symm ▸ word_lt h hin.2), if_neg (by omega), ← bit_def]; exact h.pad r c' hc'
  · rw [set'_out v hin]; exact h

theorem rbit_xor {a b : List Nat} (hl : a.length = b.length) (c : Nat) :
    rbit (List.zipWith (· ^^^ ·) a b) c = (rbit a c != rbit b c) := by
  have e : (List.zipWith (· ^^^ ·) a b)[c / 32]?.getD 0 = a[c / 32]?.getD 0 ^^^ b[c / 32]?.getD 0 := by
    rw [List.getElem?_zipWith]
    by_cases hk : c / 32 < a.length
    · rw [List.getElem?_eq_getElem hk, List.getElem?_eq_getElem (hl ▸ hk)]; rfl
    · rw [List.getElem?_eq_none (Nat.le_of_not_lt hk), List.getElem?_eq_none (hl ▸ Nat.le_of_not_lt hk)]; rfl
  rw [rbit, e, Nat.testBit_xor]; rfl

theorem foldl_set_get (f : Nat → List Nat) (n : Nat) (t : TMap (List Nat)) (j : Nat) :
    ((List.range n).foldl (fun t i => t.set i (f i)) t).get j = if j < n then f j else t.get j := by
  split
  · exact TMap.get_foldl_set_of_mem (key := id) (List.mem_range.mpr ‹_›) (fun _ _ h => h) t
  · exact TMap.get_foldl_set_of_not_mem (key := id) (fun x hx (he : x = j) => ‹¬ j < n› (he ▸ List.mem_range.mp hx)) t

/-- the zero words appended by `widen` read as the default word of `getD` does -/
theorem getD_widen {src : List Nat} {a : Nat} (hlen : src.length = a) (b k : Nat) :
    (widen src a b)[k]?.getD 0 = src[k]?.getD 0 := by
  unfold widen
  rw [← hlen, List.take_length]
  by_cases hk : k < src.length
  · rw [List.getElem?_append_left hk]
  · rw [List.getElem?_append_right (by omega), getD_zeros, List.getElem?_eq_none (by omega)]; rfl

theorem rbit_widen {m : D} (hm : WF m) (s b j : Nat) :
    rbit (widen (row m s) m.nw b) j = if j < m.nc then bit m s j else false := by
  rw [rbit, getD_widen (hm.len s), ← rbit, ← bit_def]
  split
  · rfl
  · exact hm.pad s j (by omega)

/-- What the bit-by-bit loops of of_mod2dense_copycols and of_mod2sparse_to_dense do: they write a list of cells, the value
a function of the cell, so that order and repetitions do not matter (`bit_setCells`). -/
def setCells (v : Nat → Nat → Nat) (L : List (Nat × Nat)) (a : D) : D :=
  L.foldl (fun a e => set' a e.1 e.2 (v e.1 e.2)) a

theorem setCells_wf (v : Nat → Nat → Nat) (L : List (Nat × Nat)) {a : D} (h : WF a) : WF (setCells v L a) :=
  List.foldlRecOn L _ h fun _ hb _ _ => set_wf hb _ _ _

theorem setCells_nr (v : Nat → Nat → Nat) (L : List (Nat × Nat)) (a : D) : (setCells v L a).nr = a.nr :=
  List.foldlRecOn (motive := fun b => b.nr = a.nr) L _ rfl fun b hb _ _ => (set'_nr b _ _ _).trans hb

theorem setCells_nc (v : Nat → Nat → Nat) (L : List (Nat × Nat)) (a : D) : (setCells v L a).nc = a.nc :=
  List.foldlRecOn (motive := fun b => b.nc = a.nc) L _ rfl fun b hb _ _ => (set'_nc b _ _ _).trans hb

theorem bit_setCells (v : Nat → Nat → Nat) (L : List (Nat × Nat)) {a : D} (h : WF a) (i j : Nat) :
    bit (setCells v L a) i j = if (i, j) ∈ L ∧ i < a.nr ∧ j < a.nc then decide (v i j ≠ 0) else bit a i j := by
  induction L generalizing a with
  | nil => simp [setCells]
  | cons x t ih =>
    show bit (setCells v t (set' a x.1 x.2 (v x.1 x.2))) i j = _
    rw [ih (set_wf h _ _ _), bit_set' h, set'_nr, set'_nc]
    by_cases hx : (i, j) = x
    · subst hx; by_cases hin : i < a.nr ∧ j < a.nc <;> simp [hin]
    · have : ¬ (i = x.1 ∧ j = x.2) := fun e => hx (Prod.ext e.1 e.2)
      simp only [List.mem_cons, hx, false_or, this, false_and, if_false]

/-- the words of a row read as one bit string -/
theorem words_count (L : List Nat) :
    (L.map popcount).sum = ((List.range (32 * L.length)).filter (rbit L)).length := by
  induction L with
  | nil => rfl
  | cons w t ih =>
    have hw : popcount w = ((List.range 32).filter (rbit (w :: t))).length :=
      congrArg List.length (List.filter_congr fun j hj => by
        have hj := List.mem_range.mp hj
        rw [rbit, Nat.div_eq_of_lt hj, Nat.mod_eq_of_lt hj]; rfl)
    rw [List.map_cons, List.sum_cons, ih, hw, List.length_cons, Nat.mul_succ, Nat.add_comm (32 * t.length) 32,
      ListHelper.count_range_add]
    congr 2
    exact List.filter_congr fun x _ => by
      rw [rbit, rbit, Nat.add_div_left _ (by decide), Nat.add_mod_left, List.getElem?_cons_succ]

end Dense
