import OpenFecVerif.Model.Api
import OpenFecVerif.Proofs.MatrixWF
/-!
The operations of the session model as equations: what `Api.ldpcRecv` returns on a session that has a decoder state, what an
accepted LDPC-Staircase configuration consists of, which slots `Api.buildStep` leaves alone: the equations and inversions that more
than one proof about sessions needs.
-/
/-- `Api.stairCheck`, which the model evaluates on every matrix it builds, is the staircase shape of the encoder theorems -/
theorem stairCheck_iff {k : Nat} {H : List (List Nat)} : Api.stairCheck k H = true ↔ LdpcEnc.Stair k H := by
  simp only [Api.stairCheck, List.all_eq_true, List.mem_range, Bool.and_eq_true, decide_eq_true_eq, List.contains_iff_mem,
    Bool.or_eq_true, beq_iff_eq]
  exact ⟨fun h => ⟨fun i hi => (h i hi).1.1, fun i hi => (h i hi).1.2, fun i hi e he hne => ((h i hi).2 e he).resolve_left hne⟩,
    fun h i hi => ⟨⟨h.nodup i hi, h.own i hi⟩, fun e he => Decidable.or_iff_not_imp_left.mpr (h.lower i hi e he)⟩⟩

namespace Api
variable {σ : Type}

/-- the decoder state after a submission: once Gaussian elimination has consumed the matrix a fresh symbol is only registered -/
def recvIt (IO : SymIO σ) (s : Session σ) (p : Params) (it : IT.St σ) (esi : Nat) (v : σ) : IT.St σ :=
  if s.mlConsumed then (if !it.known esi then { it with sym := it.sym.set esi (some v) } else it)
  else IT.submit (IO.ops 3 p.m p.len) p.n it esi v

theorem recvIt_of_not_consumed {IO : SymIO σ} {s : Session σ} (h : s.mlConsumed = false) (p : Params) (it : IT.St σ) (esi : Nat) (v : σ) :
    recvIt IO s p it esi v = IT.submit (IO.ops 3 p.m p.len) p.n it esi v := by
  simp only [recvIt, h, Bool.false_eq_true, if_false]

/-- the source symbols a submission reports: what the decoder rebuilt during the call -/
def recvNew (IO : SymIO σ) (s : Session σ) (p : Params) (it : IT.St σ) (esi : Nat) (v : σ) : List Nat :=
  ((recvIt IO s p it esi v).decoded.take ((recvIt IO s p it esi v).decoded.length - it.decoded.length)).filter (· < p.k)

theorem ldpcRecv_eq (IO : SymIO σ) (s : Session σ) (p : Params) (esi j : Nat) (v : σ) {it : IT.St σ} (hit : s.it = some it) :
    ldpcRecv IO s p esi v j = (.ok,
      { s with it := some (recvIt IO s p it esi v),
               srcProv := (recvNew IO s p it esi v).foldl (fun (m : TMap (Option Prov)) e => m.set e (some (cbDest s.cb e)))
                 (if (!it.known esi && decide (esi < p.k)) = true then s.srcProv.set esi (some (.app j)) else s.srcProv) },
      recvNew IO s p it esi v) := by
  unfold ldpcRecv ldpcAfter
  simp only [hit]
  split <;> rfl

/-- the LDPC-Staircase limits (`LDPC_MAX_N` = 50000 as regenerated from the headers), in the form the theorems about the
matrix construction take them -/
theorem withinLimits_ldpc {p : Params} (h : withinLimits 3 p = true) :
    1 ≤ p.k ∧ 1 ≤ p.r ∧ p.k + p.r ≤ 50000 ∧ p.N1 ≤ p.r ∧ 1 ≤ p.seed.toNat ∧ p.seed.toNat ≤ 2147483646 := by
  simp only [withinLimits, maxN, Gen.LDPC_MAX_N, Bool.and_eq_true, Bool.or_eq_true, decide_eq_true_eq, bne_iff_ne, ne_eq,
    not_true_eq_false, false_or, Nat.reduceBEq, Bool.false_eq_true, if_false] at h
  omega

/-- the one inversion of `setParamsStd` on an LDPC-Staircase session -/
theorem setParamsStd_ok_ldpc {IO : SymIO σ} {g g' : Nat} {s s' : Session σ} {p : Params} (hc : s.codec = 3)
    (h : setParamsStd IO g s p = (g', Status.ok, s')) :
    withinLimits 3 p = true ∧ ∃ M, Rfc5170.create CSem.rne53 g p.k p.r p.N1 p.seed.toNat = (g', some M) ∧
      s'.H = M.rows ∧ s'.extra = M.extra ∧ s'.mlConsumed = s.mlConsumed ∧
      s'.it = some (if (isDec s && (!M.extra && p.N1 % 2 == 0)) = true
        then IT.submit (IO.ops 3 p.m p.len) p.n (IT.init p.k M.rows) (p.n - 1) (IO.ops 3 p.m p.len).zero else IT.init p.k M.rows) := by
  unfold setParamsStd at h
  simp only [hc, beq_self_eq_true, if_true] at h
  split at h
  · cases h
  · rename_i hlim
    split at h
    · cases h
    · rename_i g2 M hM
      cases h
      exact ⟨by simpa using hlim, M, hM, rfl, rfl, rfl, rfl⟩

/-- on an initialised table `of_build_repair_symbol` changes at most the output slot, and that only if it is a repair slot -/
theorem buildStep_enc_get (IO : SymIO σ) (s : Session σ) (p : Params) (cw : List σ) (esi : Nat) (own : Bool) (e : Nat)
    (he : e ≠ esi ∨ ¬(p.k ≤ esi ∧ esi < p.n)) (hinit : (s.enc.get 0).isSome = true) :
    (buildStep IO s p cw esi own).1.enc.get e = s.enc.get e := by
  have h0 : (s.enc.get 0).isNone = false := by rw [Option.isNone_eq_false_iff, hinit]
  unfold buildStep
  -- the projection is pushed through the `if`s of `buildStep`; none of them is split
  simp only [h0, Bool.false_eq_true, if_false, apply_ite Prod.fst, apply_ite Session.enc, apply_ite (TMap.get · e), TMap.get_set]
  by_cases hr : p.k ≤ esi ∧ esi < p.n
  · simp only [if_neg (he.resolve_right (not_not_intro hr)), ite_self]
  · have hb : (decide (p.k ≤ esi) && decide (esi < p.n)) = false := by simpa using hr
    simp only [hb, Bool.not_false, Bool.false_eq_true, if_true, if_false, ite_self]

/-- the fold of `rsDecode` writes into `avail` only -/
theorem rs_fold_eq (F : RS.Fld) (O : Ops σ) (chosen : List (Nat × σ)) (l : List Nat) (s : Session σ) :
    l.foldl (fun (s : Session σ) j => { s with avail := s.avail.set j (some ⟨RS.interpolate F O chosen j, cbDest s.cb j⟩) }) s
      = { s with avail := l.foldl (fun m j => m.set j (some ⟨RS.interpolate F O chosen j, cbDest s.cb j⟩)) s.avail } := by
  induction l generalizing s with
  | nil => rfl
  | cons a t ih => rw [List.foldl_cons, ih]; rfl

/-- the status of Reed-Solomon `of_finish_decoding` is a function of the completion flag afterwards -/
theorem rsFinish_status (IO : SymIO σ) (s : Session σ) (p : Params) :
    (rsFinish IO s p).1 = if (rsFinish IO s p).2.1.finished then Status.ok else Status.failure := by
  unfold rsFinish
  split
  · simp [*]
  · split
    · simp [*]
    · split
      · simp
      · simp [rsDecode]

theorem rsFinish_ok_of_ge (IO : SymIO σ) (s : Session σ) (p : Params) (hf : s.finished = false) (hge : p.k ≤ s.nbAvail) :
    (rsFinish IO s p).1 = Status.ok := by
  unfold rsFinish
  have : ¬ s.nbAvail < p.k := by omega
  simp only [hf, Bool.false_eq_true, if_false, this]
  split <;> rfl

/-- Reed-Solomon decoding rebuilds the missing source symbols only: a slot that holds a symbol is left as it is -/
theorem rsFinish_avail_of_isSome (IO : SymIO σ) (s : Session σ) (p : Params) {e : Nat} (h : (s.avail.get e).isSome = true) :
    (rsFinish IO s p).2.1.avail.get e = s.avail.get e := by
  unfold rsFinish
  split
  · rfl
  · split
    · rfl
    · split
      · rfl
      · simp only [rsDecode, rs_fold_eq]
        refine TMap.get_foldl_set_other (fun hy => ?_) _
        rw [List.mem_filter, Option.isNone_iff_eq_none] at hy
        rw [hy.2] at h
        cases h

end Api
