import OpenFecVerif.Proofs.ITExec
import OpenFecVerif.Proofs.RowSum
/-!
# Value-level soundness of the iterative (peeling) decoder

`sent : Nat → σ` is the transmitted block (ESI ↦ symbol).  If every parity equation sums to zero on it and the decoder
is only ever given true values (`v = sent esi`), then every symbol value the decoder stores — received or rebuilt from a
partial sum — is the transmitted one.  Invariant: every stored value is true; every remaining equation row has no
repeated entry; and whenever a row still has entries, its partial sum (zero if none has been started) is the sum of the
transmitted values of exactly those entries.
-/
namespace ITSound
open IT Gauss

variable {σ : Type}

/-- step 2 on one equation keeps the row invariant -/
theorem rowStep_sound {O : Ops σ} (hO : Lawful O) (sent : Nat → σ) (sym : Nat → Option σ)
    (hs : ∀ e v, sym e = some v → v = sent e) (esi : Nat) (row : List Nat) (ct : Option σ) (nbu : Nat)
    (hnd : row.Nodup) (hrow : row ≠ [] → ct.getD O.zero = S O sent row) :
    let q := IT.rowStep O sym esi (sent esi) row ct nbu
    q.1.Nodup ∧ (q.1 ≠ [] → q.2.1.getD O.zero = S O sent q.1) := by
  unfold IT.rowStep
  dsimp only
  split
  · rename_i hmem
    rw [List.contains_iff_mem] at hmem
    split
    · refine ⟨(hnd.filter _).filter _, fun hne2 => ?_⟩
      -- something is left besides `esi`, so the value of `esi` has been added to the partial sum
      have hlen : row.length > 1 := by
        have := ITAbs.length_filter_ne_of_nodup hnd hmem
        have : 0 < (row.filter fun e => e != esi).length := List.length_pos_iff.2 fun h0 => hne2 (by rw [h0]; rfl)
        omega
      refine (fold_known hO sent sym hs _ (fun _ _ => rfl) _ _).trans ?_
      -- before the known entries are folded in, the partial sum is the sum over the row without `esi`
      rw [if_pos hlen, hrow (List.ne_nil_of_mem hmem), S_remove hO sent hnd hmem, hO.add_cancel,
        S_split hO sent (fun e => (sym e).isSome) (row.filter fun e => e != esi), hO.add_comm (S O sent _) (S O sent _),
        hO.add_cancel]
      congr 1
      exact List.filter_congr fun e _ => by cases sym e <;> rfl
    · rename_i harm
      refine ⟨hnd, fun hne => ?_⟩
      cases ct with
      | none => exact hrow hne
      | some x => simp at harm
  · exact ⟨hnd, hrow⟩

structure VInv (O : Ops σ) (sent : Nat → σ) (s : IT.St σ) : Prop where
  sym_ok : ∀ e v, s.sym.get e = some v → v = sent e
  row_nodup : ∀ r, (s.rows.get r).Nodup
  row_ok : ∀ r, s.rows.get r ≠ [] → (s.cterm.get r).getD O.zero = S O sent (s.rows.get r)

theorem VInv.set_row {O : Ops σ} {sent : Nat → σ} {s : IT.St σ} (inv : VInv O sent s) (r : Nat) {row : List Nat} {ct : Option σ}
    (nbu : TMap Nat) (hnd : row.Nodup) (hok : row ≠ [] → ct.getD O.zero = S O sent row) :
    VInv O sent { s with rows := s.rows.set r row, cterm := s.cterm.set r ct, nbu := nbu } := by
  refine ⟨inv.sym_ok, fun x => ?_, fun x => ?_⟩
  all_goals
    simp only [TMap.get_set]
    split
  · exact hnd
  · exact inv.row_nodup x
  · exact hok
  · exact inv.row_ok x

theorem VInv.set_sym {O : Ops σ} {sent : Nat → σ} {s : IT.St σ} (inv : VInv O sent s) (e : Nat) :
    VInv O sent { s with sym := s.sym.set e (some (sent e)) } := by
  refine ⟨fun x v => ?_, inv.row_nodup, inv.row_ok⟩
  rw [TMap.get_set]
  split
  · rintro ⟨⟩; subst x; rfl
  · exact inv.sym_ok x v

def PA (O : Ops σ) (sent : Nat → σ) (fuel : Nat) : Prop :=
  ∀ (s : IT.St σ) esi, VInv O sent s → VInv O sent (IT.decode O fuel s esi (sent esi))
def PB (O : Ops σ) (sent : Nat → σ) (fuel : Nat) : Prop :=
  ∀ l (s : IT.St σ), VInv O sent s → VInv O sent (IT.drain O fuel s l)

theorem vinv_decode_drain {O : Ops σ} (hO : Lawful O) (sent : Nat → σ) :
    (∀ fuel s esi v, VInv O sent s ∧ v = sent esi → VInv O sent (decode O fuel s esi v)) ∧
    ∀ fuel s l, VInv O sent s → VInv O sent (drain O fuel s l) := by
  refine decode_drain_hoare O (fun _ _ _ _ h _ => h.1) ?_ ?_ ?_ fun _ _ h => h
  · rintro _ s esi _ ⟨inv, rfl⟩ -
    exact inv.set_sym esi
  · intro _ s esi v r inv hv
    cases inv.sym_ok esi v hv
    obtain ⟨h1, h2⟩ := rowStep_sound hO sent s.sym.get inv.sym_ok esi (s.rows.get r) (s.cterm.get r) (s.nbu.get r)
      (inv.row_nodup r) (inv.row_ok r)
    exact inv.set_row r _ h1 h2
  · intro _ s r e inv he
    have hc : VInv O sent (s.consume r) := inv.set_row r s.nbu List.nodup_nil (fun h => absurd rfl h)
    -- the partial sum of an equation with one entry left is that entry's value
    refine ⟨?_, by rw [inv.row_ok r (by simp [he]), he, S_cons hO, S_nil, hO.add_zero]⟩
    split
    · exact hc
    -- the other branch records the symbol in `decoded`, which the invariant does not mention
    · exact ⟨hc.sym_ok, hc.row_nodup, hc.row_ok⟩

/-- a submission of the true value keeps the invariant.  `PB_of_PA` and `PA_succ` below have the shape of the two halves of a mutual
induction on the fuel; `vinv_decode_drain` gives both without their hypotheses. -/
theorem PA_all {O : Ops σ} (hO : Lawful O) (sent : Nat → σ) : ∀ fuel, PA O sent fuel :=
  fun fuel s esi inv => (vinv_decode_drain hO sent).1 fuel s esi _ ⟨inv, rfl⟩

theorem PB_of_PA {O : Ops σ} (hO : Lawful O) (sent : Nat → σ) (fuel : Nat) (hA : PA O sent fuel) : PB O sent fuel :=
  fun l s inv => (vinv_decode_drain hO sent).2 fuel s l inv

theorem PA_succ {O : Ops σ} (hO : Lawful O) (sent : Nat → σ) (fuel : Nat) (hB : PB O sent fuel) : PA O sent (fuel+1) :=
  PA_all hO sent (fuel + 1)

theorem init_sound {O : Ops σ} (sent : Nat → σ) (k : Nat) (Hl : List (List Nat))
    (hnd : ∀ row ∈ Hl, row.Nodup) (hcw : ∀ row ∈ Hl, S O sent row = O.zero) : VInv O sent (IT.init k Hl : IT.St σ) := by
  have hrows : ∀ r, (IT.init k Hl : IT.St σ).rows.get r = ITRefine.Hf Hl r := fun r => TMap.ofList_get Hl [] r
  refine ⟨fun e v h => by simp [IT.init, TMap.mk'_get] at h, fun r => ?_, fun r hne => ?_⟩
  · rw [hrows]
    rcases ITRefine.Hf_nil_or_mem Hl r with h | h
    · rw [h]; exact List.nodup_nil
    · exact hnd _ h
  · rw [hrows] at hne ⊢
    rw [show (IT.init k Hl : IT.St σ).cterm.get r = none from TMap.mk'_get none r]
    exact (hcw _ ((ITRefine.Hf_nil_or_mem Hl r).resolve_left hne)).symm

/-- **Soundness of streaming decoding.**  Whatever sequence of true symbols is submitted, every value the decoder holds
(received or rebuilt) is the transmitted one. -/
theorem run_sound {O : Ops σ} (hO : Lawful O) (sent : Nat → σ) (n k : Nat) (Hl : List (List Nat))
    (hnd : ∀ row ∈ Hl, row.Nodup) (hcw : ∀ row ∈ Hl, S O sent row = O.zero) (l : List Nat) :
    VInv O sent (ITRefine.runExec O n k Hl (l.map fun e => (e, sent e))) := by
  unfold ITRefine.runExec
  rw [List.foldl_map]
  exact List.foldlRecOn l _ (init_sound (O := O) sent k Hl hnd hcw) fun s hs a _ => PA_all hO sent (n + 1) s a hs

end ITSound
