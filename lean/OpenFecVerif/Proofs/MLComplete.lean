import OpenFecVerif.Proofs.MLSound
/-!
# ML-completeness in terms of the code: `of_finish_decoding` succeeds iff the source symbols are uniquely determined

`IsCodeword H z` : the 0/1 word `z` satisfies every parity-check equation.  The difference of two candidate blocks that agree
on the known symbols is a codeword vanishing there, so "the source symbols are uniquely determined by the known symbols" is
`SourcesDetermined`: every codeword that vanishes on the known symbols vanishes on the sources.

Words that vanish on the known symbols and 0/1 assignments to the unknowns are the same thing (`z ↦ unk.map z`, `exists_word`), and
under this correspondence the codewords are the kernel vectors of the simplified system (`inKernel_iff`).  So the system has only
the zero kernel vector iff every such codeword vanishes (`kernel_trivial_iff`).  The zero set of a codeword is closed under peeling.
-/
namespace MLComplete
open Gauss ITSound MLSound

def IsCodeword (H : List (List Nat)) (z : Nat → Bool) : Prop := ∀ row ∈ H, S boolOps z row = false

def SourcesDetermined (H : List (List Nat)) (k n : Nat) (known : Nat → Bool) : Prop :=
  ∀ z, IsCodeword H z → (∀ e, e < n → known e = true → z e = false) → ∀ i, i < k → z i = false

theorem exists_word {unk : List Nat} (hnd : unk.Nodup) {v : List Bool} (hv : v.length = unk.length) :
    ∃ z : Nat → Bool, unk.map z = v ∧ ∀ e, e ∉ unk → z e = false :=
  ⟨fun e => v.getD (unk.idxOf e) false, List.ext_getElem (by simp [hv]) fun i _ h₂ => by simp [hnd.idxOf_getElem, h₂],
    fun e h => by simp [List.idxOf_eq_length h, ← hv]⟩

/-- on a word that vanishes on the known symbols, the left-hand side of a generated equation is the parity of the whole
parity-check equation -/
theorem dot_eq_S (z : Nat → Bool) (known : Nat → Bool) (k r : Nat) (hz : ∀ e, e < k + r → known e = true → z e = false)
    (row : List Nat) (hnd : row.Nodup) (hlt : ∀ e ∈ row, e < k + r) :
    dot boolOps ((unknowns known k r).map fun e => row.contains e) ((unknowns known k r).map z) = S boolOps z row := by
  rw [dot_unknowns boolOps_lawful z known k r row hnd hlt, S_split boolOps_lawful z known row,
    S_eq_zero boolOps_lawful z _ fun e he => hz e (hlt e (List.mem_filter.mp he).1) (List.mem_filter.mp he).2]
  exact (boolOps_lawful.zero_add _).symm

theorem inKernel_iff {σ : Type} (O : Ops σ) (sym : Nat → Option σ) (k r : Nat) (H : List (List Nat)) (hwf : WFH H (k + r))
    (z : Nat → Bool) (hz : ∀ e, e < k + r → (sym e).isSome = true → z e = false) :
    InKernel (system O sym (unknowns (fun e => (sym e).isSome) k r) H) ((unknowns (fun e => (sym e).isSome) k r).map z)
      ↔ IsCodeword H z := by
  refine forall_mem_system.trans (forall₂_congr fun row hm => ?_)
  show _ → dot boolOps ((unknowns (fun e => (sym e).isSome) k r).map fun e => row.contains e) _ = false ↔ _
  rw [dot_eq_S z (fun e => (sym e).isSome) k r hz row (hwf row hm).1 (hwf row hm).2]
  -- an equation without unknown member gives no row of the system, and holds on `z` anyway
  refine ⟨fun h => ?_, fun h _ => h⟩
  by_cases hc : (row.any fun e => !(sym e).isSome) = true
  · exact h hc
  · have hall : ∀ e ∈ row, (sym e).isSome = true := by
      simpa only [List.any_eq_true, not_exists, not_and, Bool.not_eq_true', Bool.not_eq_false] using hc
    exact S_eq_zero boolOps_lawful z row fun e he => hz e ((hwf row hm).2 e he) (hall e he)

theorem kernel_trivial_iff {σ : Type} (O : Ops σ) (sym : Nat → Option σ) (k r : Nat) (H : List (List Nat)) (hwf : WFH H (k + r)) :
    (∀ v : List Bool, v.length = (unknowns (fun e => (sym e).isSome) k r).length →
        InKernel (system O sym (unknowns (fun e => (sym e).isSome) k r) H) v → v = List.replicate (unknowns (fun e => (sym e).isSome) k r).length false)
      ↔ ∀ z, IsCodeword H z → (∀ e, e < k + r → (sym e).isSome = true → z e = false) → ∀ e, e < k + r → z e = false := by
  constructor
  · intro h z hcw hz e he
    have hzero := h _ (List.length_map _) ((inKernel_iff O sym k r H hwf z hz).mpr hcw)
    cases hk : (sym e).isSome with
    | true => exact hz e he hk
    | false => exact (List.eq_replicate_iff.mp hzero).2 _ (List.mem_map_of_mem ((mem_unknowns _ k r e).mpr ⟨he, hk⟩))
  · intro h v hv hker
    obtain ⟨z, rfl, hz0⟩ := exists_word (unknowns_nodup _ k r) hv
    have hvan : ∀ e, e < k + r → (sym e).isSome = true → z e = false :=
      fun e _ hk => hz0 e fun hm => by simp [((mem_unknowns _ k r e).mp hm).2] at hk
    exact List.eq_replicate_iff.mpr ⟨hv, List.forall_mem_map.mpr fun e he =>
      h z ((inKernel_iff O sym k r H hwf z hvan).mp hker) hvan e ((mem_unknowns _ k r e).mp he).1⟩

theorem zero_set_peelClosed (Hl : List (List Nat)) (hnd : ∀ row ∈ Hl, row.Nodup) (z : Nat → Bool) (hcw : IsCodeword Hl z) :
    ITAbs.PeelClosed (ITRefine.Hf Hl) (fun e => z e = false) := by
  intro r e he hall
  rcases ITRefine.Hf_nil_or_mem Hl r with h0 | hrow
  · rw [h0] at he; cases he
  · rw [S_solve_for boolOps_lawful z (hnd _ hrow) he (hcw _ hrow)]
    exact S_eq_zero boolOps_lawful z _ fun a ha => hall a (List.mem_filter.mp ha).1 (by simpa using (List.mem_filter.mp ha).2)

end MLComplete
