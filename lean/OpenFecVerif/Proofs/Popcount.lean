import OpenFecVerif.Model.Dense
import OpenFecVerif.Proofs.ListHelper
import OpenFecVerif.Gen.Popcount
/-!
# SWAR population counts of of_hamming_weight.c, for every word

`Gen.of_hweight32` and `Gen.of_popcount_3` are regenerated from the C source on every run.  A word is read as `n` lanes of
`k` bits (`lanes k f n x` applies `f` to every lane).  Adding is lane-wise because `lanes` is linear in `f`; shifting right
by `s` and masking with `m < 2^(k-s)` in every lane is lane-wise because the bits that come in from the next lane fall under
zeros of the mask (`shr_and_lane`, the one bit-level fact).  So the three masking steps act on every byte by itself, for any
number of bytes, and that they turn a byte into its count is a finite fact over one byte (`byte_steps`).  The final folding
adds the lanes.
-/
namespace Dense.Pop

/-- number of one bits among the low `n` bits (`popcount = cnt 32`, `popcount64 = cnt 64`, `pc8 = cnt 8`) -/
def cnt (n x : Nat) : Nat := ((List.range n).filter fun i => x.testBit i).length

def pc8 (b : Nat) : Nat := ((List.range 8).filter fun i => b.testBit i).length

def popcount64 (x : Nat) : Nat := ((List.range 64).filter fun i => x.testBit i).length

theorem cnt_le (n x : Nat) : cnt n x ≤ n := ListHelper.count_range_le _ n

theorem pc8_le (b : Nat) : pc8 b ≤ 8 := cnt_le 8 b

theorem cnt_add (a b x : Nat) : cnt (a + b) x = cnt a x + cnt b (x / 2 ^ a) := by
  unfold cnt
  rw [ListHelper.count_range_add]
  congr 3
  funext i
  rw [Nat.testBit_div_two_pow, Nat.add_comm]

theorem cnt_mod (n x : Nat) : cnt n (x % 2 ^ n) = cnt n x := by
  unfold cnt
  congr 1
  apply List.filter_congr
  intro i hi
  simp [Nat.testBit_mod_two_pow, List.mem_range.mp hi]

/-- `f` applied to each of the `n` low `k`-bit lanes of `x`, reassembled -/
def lanes (k : Nat) (f : Nat → Nat) : Nat → Nat → Nat
  | 0, _ => 0
  | n + 1, x => f (x % 2 ^ k) + 2 ^ k * lanes k f n (x / 2 ^ k)

def lsum (k : Nat) (f : Nat → Nat) : Nat → Nat → Nat
  | 0, _ => 0
  | n + 1, x => f (x % 2 ^ k) + lsum k f n (x / 2 ^ k)

/-- `m` in each of the `n` low `k`-bit lanes: the masks `0x5555…`, `0x3333…`, `0x0f0f…` and the multiplier `0x0101…` -/
def rep (k m : Nat) : Nat → Nat
  | 0 => 0
  | n + 1 => m + 2 ^ k * rep k m n

theorem cnt_lanes (k n x : Nat) : cnt (k * n) x = lsum k (cnt k) n x := by
  induction n generalizing x with
  | zero => rfl
  | succ n ih => rw [Nat.mul_succ, Nat.add_comm, cnt_add, ih, lsum, cnt_mod]

theorem shr_and_lane {k s a m : Nat} (R M : Nat) (hs : s ≤ k) (ha : a < 2 ^ k) (hm : m < 2 ^ (k - s)) :
    ((a + 2 ^ k * R) >>> s) &&& (m + 2 ^ k * M) = ((a >>> s) &&& m) + 2 ^ k * ((R >>> s) &&& M) := by
  have hmk : m < 2 ^ k := Nat.lt_of_lt_of_le hm (Nat.pow_le_pow_right (by decide) (Nat.sub_le k s))
  apply Nat.eq_of_testBit_eq
  intro i
  rw [Nat.add_comm a, Nat.add_comm m, Nat.add_comm (_ &&& m), Nat.testBit_and, Nat.testBit_shiftRight,
    Nat.testBit_two_pow_mul_add _ ha, Nat.testBit_two_pow_mul_add _ hmk,
    Nat.testBit_two_pow_mul_add _ (Nat.and_lt_two_pow _ hmk), Nat.testBit_and, Nat.testBit_and,
    Nat.testBit_shiftRight, Nat.testBit_shiftRight]
  by_cases h1 : i < k
  · by_cases h2 : s + i < k
    · simp [h1, h2]
    · have : m.testBit i = false :=
        Nat.testBit_lt_two_pow (Nat.lt_of_lt_of_le hm (Nat.pow_le_pow_right (by decide) (by omega)))
      simp [h1, h2, this]
  · have h2 : ¬ s + i < k := by omega
    have e : s + i - k = s + (i - k) := by omega
    simp [h1, h2, e]

section
variable {k : Nat} {f g : Nat → Nat}

theorem lanes_congr (h : ∀ b, b < 2 ^ k → f b = g b) (n x : Nat) : lanes k f n x = lanes k g n x := by
  induction n generalizing x with
  | zero => rfl
  | succ n ih => rw [lanes, lanes, ih, h _ (Nat.mod_lt _ (Nat.two_pow_pos k))]

theorem lanes_add (n x : Nat) : lanes k f n x + lanes k g n x = lanes k (fun b => f b + g b) n x := by
  induction n generalizing x with
  | zero => rfl
  | succ n ih => simp only [lanes, ← ih, Nat.mul_add]; omega

theorem lanes_id (n x : Nat) : lanes k (fun b => b) n x = x % 2 ^ (k * n) := by
  induction n generalizing x with
  | zero => simp [lanes, Nat.mod_one]
  | succ n ih => rw [lanes, ih, Nat.mul_succ, Nat.add_comm (k * n) k, Nat.pow_add, Nat.mod_mul]

theorem lane_lt {B a R N : Nat} (ha : a < B) (hR : R < N) : a + B * R < B * N := by
  have := Nat.mul_le_mul_left B (Nat.succ_le_of_lt hR)
  rw [Nat.mul_succ] at this
  omega

theorem lanes_lt (hg : ∀ b, b < 2 ^ k → g b < 2 ^ k) (n x : Nat) : lanes k g n x < 2 ^ (k * n) := by
  induction n generalizing x with
  | zero => simp [lanes]
  | succ n ih =>
    rw [lanes, Nat.mul_succ, Nat.add_comm (k * n), Nat.pow_add]
    exact lane_lt (hg _ (Nat.mod_lt x (Nat.two_pow_pos k))) (ih _)

theorem rep_lt {m : Nat} (hm : m < 2 ^ k) (n : Nat) : rep k m n < 2 ^ (k * n) := by
  induction n with
  | zero => simp [rep]
  | succ n ih =>
    rw [rep, Nat.mul_succ, Nat.add_comm (k * n), Nat.pow_add]
    exact lane_lt hm ih

theorem lanes_shr_and (hg : ∀ b, b < 2 ^ k → g b < 2 ^ k) {s m : Nat} (hs : s ≤ k) (hm : m < 2 ^ (k - s)) (n x : Nat) :
    (lanes k g n x >>> s) &&& rep k m n = lanes k (fun b => (g b >>> s) &&& m) n x := by
  induction n generalizing x with
  | zero => simp [lanes, rep]
  | succ n ih => rw [lanes, rep, shr_and_lane _ _ hs (hg _ (Nat.mod_lt _ (Nat.two_pow_pos k))) hm, ih, lanes]

/-- unsigned subtraction acts on every lane by itself when no lane borrows -/
theorem lanes_sub (hg : ∀ b, b < 2 ^ k → g b ≤ b) {n w : Nat} (hw : w < 2 ^ (k * n)) :
    (w + 2 ^ (k * n) - lanes k g n w) % 2 ^ (k * n) = lanes k (fun b => b - g b) n w := by
  have hs : lanes k (fun b => b - g b) n w + lanes k g n w = w := by
    rw [lanes_add, lanes_congr (fun b hb => Nat.sub_add_cancel (hg b hb)) n w, lanes_id, Nat.mod_eq_of_lt hw]
  have hlt : lanes k (fun b => b - g b) n w < 2 ^ (k * n) :=
    lanes_lt (fun b hb => Nat.lt_of_le_of_lt (Nat.sub_le b _) hb) n w
  have : w + 2 ^ (k * n) - lanes k g n w = lanes k (fun b => b - g b) n w + 2 ^ (k * n) := by omega
  rw [this, Nat.add_mod_right, Nat.mod_eq_of_lt hlt]

theorem lanes_and (hg : ∀ b, b < 2 ^ k → g b < 2 ^ k) {m : Nat} (hm : m < 2 ^ k) (n x : Nat) :
    lanes k g n x &&& rep k m n = lanes k (fun b => g b &&& m) n x :=
  lanes_shr_and hg (Nat.zero_le k) hm n x

end

theorem mod_and {M N : Nat} (a : Nat) (h : M < 2 ^ N) : a % 2 ^ N &&& M = a &&& M := by
  have := @Nat.and_mod_two_pow a M N
  rw [Nat.mod_eq_of_lt (Nat.and_lt_two_pow a h), Nat.mod_eq_of_lt h] at this
  exact this.symm

/-- One byte of the third SWAR step, which masks *after* adding.  With nibbles `a`, `c` the low byte of the sum is `a + c`
plus 16 times (`c` plus the low nibble of the next byte): below 256, and the mask keeps `a + c`. -/
theorem fold4_lane {a c L : Nat} (M : Nat) (h1 : a ≤ 4) (h2 : c ≤ 4) (h3 : L % 16 ≤ 4) :
    ((a + 16 * c + 2 ^ 8 * L) + (a + 16 * c + 2 ^ 8 * L) >>> 4) &&& (15 + 2 ^ 8 * M)
      = (a + c) + 2 ^ 8 * ((L + L >>> 4) &&& M) := by
  have hlt : a + c + 16 * (c + L % 16) < 2 ^ 8 := by omega
  have e : (a + 16 * c + 2 ^ 8 * L) + (a + 16 * c + 2 ^ 8 * L) >>> 4
      = (a + c + 16 * (c + L % 16)) + 2 ^ 8 * (L + L >>> 4) := by
    simp only [Nat.shiftRight_eq_div_pow]; omega
  rw [e]
  refine (shr_and_lane (s := 0) (m := 15) _ _ (Nat.zero_le 8) hlt (by decide)).trans ?_
  rw [Nat.shiftRight_zero, Nat.shiftRight_zero, Nat.and_two_pow_sub_one_eq_mod _ 4, Nat.add_mul_mod_self_left,
    Nat.mod_eq_of_lt (Nat.lt_of_le_of_lt (Nat.add_le_add h1 h2) (by decide))]

theorem lanes_fold4 {lo hi : Nat → Nat} (h : ∀ b, b < 2 ^ 8 → lo b ≤ 4 ∧ hi b ≤ 4) (n x : Nat) :
    (lanes 8 (fun b => lo b + 16 * hi b) n x + lanes 8 (fun b => lo b + 16 * hi b) n x >>> 4) &&& rep 8 15 n
      = lanes 8 (fun b => lo b + hi b) n x := by
  induction n generalizing x with
  | zero => simp [lanes, rep]
  | succ n ih =>
    obtain ⟨h1, h2⟩ := h _ (Nat.mod_lt x (Nat.two_pow_pos 8))
    have h3 : lanes 8 (fun b => lo b + 16 * hi b) n (x / 2 ^ 8) % 16 ≤ 4 := by
      cases n with
      | zero => simp [lanes]
      | succ n => have := (h _ (Nat.mod_lt (x / 2 ^ 8) (Nat.two_pow_pos 8))).1; rw [lanes]; omega
    rw [lanes, lanes, rep, ← ih]
    exact fold4_lane _ h1 h2 h3

theorem rep_one_succ (k n : Nat) : rep k 1 (n + 1) = rep k 1 n + (2 ^ k) ^ n := by
  induction n with
  | zero => simp [rep]
  | succ n ih =>
    show 1 + 2 ^ k * rep k 1 (n + 1) = (1 + 2 ^ k * rep k 1 n) + (2 ^ k) ^ (n + 1)
    rw [ih, Nat.mul_add, Nat.add_assoc, Nat.pow_succ, Nat.mul_comm ((2 ^ k) ^ n)]

/-- One lane of the multiplication by `O = 1 + B + … + B^n` (`B` the lane base, `Bn = B^n`, `O'` the same sum one term shorter).
Expand the low lane of the multiplicand against `O = 1 + B·O'` and the rest against `O = O' + B·Bn`: modulo `B·(B·Bn)` the last
summand goes, and what is left is `u + B·V` with `u < B`, whose lanes above the lowest are those of `V`. -/
theorem mul_ones_step {c a B X' O O' Bn : Nat} (h1 : O = 1 + B * O') (h2 : O = O' + B * Bn) (hu : c + a < B) :
    (c + (a + B * X')) * O % (B * (B * Bn)) / (B * Bn) = (c + a + X') * O' % (B * Bn) / Bn := by
  have hB : 0 < B := Nat.zero_lt_of_lt hu
  have e : (c + (a + B * X')) * O = (c + a) + B * ((c + a + X') * O') + B * (B * Bn) * X' :=
    calc (c + (a + B * X')) * O = (c + a) * O + B * X' * O := by rw [← Nat.add_assoc, Nat.add_mul]
      _ = (c + a) * (1 + B * O') + B * X' * (O' + B * Bn) := by rw [← h1, ← h2]
      _ = _ := by grind
  rw [e, Nat.add_mul_mod_self_left, Nat.mod_mul, Nat.add_mul_mod_self_left, Nat.mod_eq_of_lt hu,
    Nat.add_mul_div_left _ _ hB, Nat.div_eq_of_lt hu, Nat.zero_add, ← Nat.div_div_eq_div_mul,
    Nat.add_mul_div_left _ _ hB, Nat.div_eq_of_lt hu, Nat.zero_add]

/-- multiplying by `0x0101…01` leaves the sum of all lanes in the top lane, if that sum fits a lane
(`c` is the sum of the lanes already passed) -/
theorem lanes_mul_ones (k : Nat) (f : Nat → Nat) (n x c : Nat) (h : c + lsum k f (n + 1) x < 2 ^ k) :
    (c + lanes k f (n + 1) x) * rep k 1 (n + 1) % (2 ^ k) ^ (n + 1) / (2 ^ k) ^ n = c + lsum k f (n + 1) x := by
  induction n generalizing x c with
  | zero =>
    simp only [lanes, lsum, rep, Nat.mul_zero, Nat.add_zero, Nat.mul_one, Nat.pow_zero, Nat.div_one, Nat.zero_add,
      Nat.pow_one] at h ⊢
    exact Nat.mod_eq_of_lt h
  | succ n ih =>
    rw [lsum, ← Nat.add_assoc] at h ⊢
    rw [← ih (x / 2 ^ k) (c + f (x % 2 ^ k)) h, lanes, Nat.pow_succ _ (n + 1), Nat.mul_comm _ (2 ^ k), Nat.pow_succ _ n,
      Nat.mul_comm _ (2 ^ k)]
    refine mul_ones_step rfl ?_ (Nat.lt_of_le_of_lt (Nat.le_add_right _ _) h)
    rw [rep_one_succ, Nat.pow_succ, Nat.mul_comm]

/-- the byte after the first and after the second masking step -/
def r1 (b : Nat) : Nat := b - ((b >>> 1) &&& 85)
def r2 (b : Nat) : Nat := (r1 b &&& 51) + ((r1 b >>> 2) &&& 51)

theorem byte_steps : ∀ b, b < 2 ^ 8 → r2 b % 16 ≤ 4 ∧ r2 b / 16 ≤ 4 ∧ r2 b % 16 + r2 b / 16 = pc8 b := by
  decide +kernel

/-- the three masking steps, for any number of byte lanes: each byte is replaced by its count.  The masks are variables with an
equation each, so that a caller passes the literal of the C source and closes the equation by evaluation. -/
theorem swar_bytes (n w M1 M2 M3 : Nat) (hw : w < 2 ^ (8 * n))
    (h1 : M1 = rep 8 85 n) (h2 : M2 = rep 8 51 n) (h3 : M3 = rep 8 15 n) :
    let x1 := (w + 2 ^ (8 * n) - ((w >>> 1) &&& M1)) % 2 ^ (8 * n)
    let x2 := ((x1 &&& M2) + ((x1 >>> 2) &&& M2)) % 2 ^ (8 * n)
    ((x2 + (x2 >>> 4)) % 2 ^ (8 * n)) &&& M3 = lanes 8 pc8 n w := by
  intro x1 x2
  subst h1 h2 h3
  have hr1 : ∀ b, b < 2 ^ 8 → r1 b < 2 ^ 8 := fun b hb => Nat.lt_of_le_of_lt (Nat.sub_le b _) hb
  have hr2 : ∀ b, b < 2 ^ 8 → r2 b < 2 ^ 8 := fun b _ =>
    Nat.lt_of_le_of_lt (Nat.add_le_add Nat.and_le_right Nat.and_le_right) (by decide)
  have e1 : x1 = lanes 8 r1 n w := by
    have hT := lanes_shr_and (k := 8) (g := fun b => b) (fun _ h => h) (s := 1) (m := 85) (by decide) (by decide) n w
    rw [lanes_id, Nat.mod_eq_of_lt hw] at hT
    show (w + 2 ^ (8 * n) - ((w >>> 1) &&& rep 8 85 n)) % 2 ^ (8 * n) = _
    rw [hT]
    exact lanes_sub (fun b _ => Nat.le_trans Nat.and_le_left (Nat.shiftRight_le b 1)) hw
  have e2 : x2 = lanes 8 r2 n w := by
    show ((x1 &&& rep 8 51 n) + ((x1 >>> 2) &&& rep 8 51 n)) % 2 ^ (8 * n) = _
    rw [e1, lanes_and hr1 (by decide), lanes_shr_and hr1 (by decide) (by decide), lanes_add]
    exact Nat.mod_eq_of_lt (lanes_lt hr2 n w)
  rw [mod_and _ (rep_lt (by decide) n), e2, lanes_congr (fun b _ => (Nat.mod_add_div (r2 b) 16).symm) n w,
    lanes_fold4 fun b hb => ⟨(byte_steps b hb).1, (byte_steps b hb).2.1⟩]
  exact lanes_congr (fun b hb => (byte_steps b hb).2.2) n w

theorem popcount_eq_lsum (w : Nat) : Dense.popcount w = lsum 8 pc8 4 w := cnt_lanes 8 4 w
theorem popcount64_eq_lsum (w : Nat) : popcount64 w = lsum 8 pc8 8 w := cnt_lanes 8 8 w

theorem popcount_bytes (w : Nat) :
    Dense.popcount w = pc8 (w % 256) + pc8 (w / 256 % 256) + pc8 (w / 65536 % 256) + pc8 (w / 16777216 % 256) := by
  simp only [popcount_eq_lsum, lsum, Nat.div_div_eq_div_mul, Nat.reducePow, Nat.reduceMul, Nat.add_zero, Nat.add_assoc]

theorem popcount64_words (x : Nat) : popcount64 x = Dense.popcount (x % 2 ^ 32) + Dense.popcount (x / 2 ^ 32 % 2 ^ 32) := by
  show cnt (32 + 32) x = cnt 32 (x % 2 ^ 32) + cnt 32 (x / 2 ^ 32 % 2 ^ 32)
  rw [cnt_add, cnt_mod, cnt_mod]

/-- the two folding steps of `of_hweight32` on four byte lanes holding counts -/
theorem fold32 {p0 p1 p2 p3 : Nat} (c0 : p0 ≤ 8) (c1 : p1 ≤ 8) (c2 : p2 ≤ 8) (c3 : p3 ≤ 8) :
    let x := p0 + 256 * (p1 + 256 * (p2 + 256 * (p3 + 256 * 0)))
    ((x + x >>> 8) % 4294967296 + ((x + x >>> 8) % 4294967296) >>> 16) % 4294967296 &&& 255
      = p0 + (p1 + (p2 + (p3 + 0))) := by
  intro x
  -- after the first step the bytes hold p0+p1, p1+p2, p2+p3, p3; after the second the low byte holds the sum
  rw [show x >>> 8 = p1 + 256 * p2 + 65536 * p3 by rw [Nat.shiftRight_eq_div_pow]; omega,
    show (x + (p1 + 256 * p2 + 65536 * p3)) % 4294967296
      = (p0 + p1) + 256 * (p1 + p2) + 65536 * (p2 + p3) + 16777216 * p3 by omega,
    show ((p0 + p1) + 256 * (p1 + p2) + 65536 * (p2 + p3) + 16777216 * p3) >>> 16 = (p2 + p3) + 256 * p3 by
      rw [Nat.shiftRight_eq_div_pow]; omega,
    Nat.and_two_pow_sub_one_eq_mod _ 8]
  clear x
  omega

theorem hweight32_eq (w : Nat) (hw : w < 4294967296) : Gen.of_hweight32 w = Dense.popcount w := by
  have h := swar_bytes 4 w 1431655765 858993459 252645135 hw (by decide) (by decide) (by decide)
  simp only [Nat.reduceMul, Nat.reducePow] at h
  unfold Gen.of_hweight32
  simp only [h, popcount_eq_lsum, lanes, lsum, Nat.reducePow]
  exact fold32 (pc8_le _) (pc8_le _) (pc8_le _) (pc8_le _)

theorem popcount3_eq (x : Nat) (hx : x < 18446744073709551616) : Gen.of_popcount_3 x = ((popcount64 x : Nat) : Int) := by
  have h := swar_bytes 8 x 6148914691236517205 3689348814741910323 1085102592571150095 hx
    (by decide) (by decide) (by decide)
  have hc : popcount64 x ≤ 64 := cnt_le 64 x
  have hm := lanes_mul_ones 8 pc8 7 x 0 (by rw [Nat.zero_add, ← popcount64_eq_lsum]; omega)
  rw [Nat.zero_add, Nat.zero_add, ← popcount64_eq_lsum] at hm
  simp only [Nat.reduceMul, Nat.reducePow, Nat.reduceAdd] at h hm
  unfold Gen.of_popcount_3
  simp only [h]
  simp only [show (72340172838076673 : Nat) = rep 8 1 8 by decide, Nat.shiftRight_eq_div_pow, Nat.reducePow, hm]
  unfold CSem.toSigned
  rw [Nat.mod_eq_of_lt (by omega), if_pos (by simp only [Nat.reduceSub, Nat.reducePow]; omega)]

end Dense.Pop
