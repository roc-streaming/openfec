import OpenFecVerif.Model.Parity2D
import OpenFecVerif.Proofs.MatrixWF
/-!
The executable checks of the 2D-parity codec, and why they hold of every D × L arrangement with D, L ≥ 1, not only of the shapes
within the codec's limits (k ≤ 16, n ≤ 24).  Check c of `rowsOf (D * L) D L` is distinct source symbols followed by its own repair symbol
k + c (`getD_rowsOf`): that gives well-formedness, the staircase shape and the repair part of the product structure.  Source symbol
s = (s / L) · L + s % L lies in row check s / L and in column check s % L and in no other (`mem_row`, `mem_col`): that gives the
rest of the product structure and the covering.  `dims` returns such a shape (`dims_eq_some`).
-/

/-- a product shape exists: some d with d·d ≤ n, d ∣ k and d + k/d = r -/
def acceptSpec (k r : Nat) : Bool :=
  decide (r < k + r) && (List.range 25).any fun d => 1 ≤ d && d * d ≤ k + r && k % d == 0 && d + k / d == r

/-- the product single-parity structure of a matrix with D row checks and L column checks -/
def productCheck (k D L : Nat) (H : List (List Nat)) : Bool :=
  H.length == D + L &&
  -- each source symbol belongs to exactly one row check and exactly one column check
  (List.range k).all (fun s => ((H.take D).filter (·.contains s)).length == 1 && ((H.drop D).filter (·.contains s)).length == 1) &&
  -- each check has its own repair symbol (ESI k + c) and holds no other repair symbol
  (List.range (D + L)).all (fun c => (H.getD c []).filter (· ≥ k) == [k + c]) &&
  -- row check i is row i of the D × L arrangement, column check c is column c
  (List.range D).all (fun i => (H.getD i []).filter (· < k) == (List.range L).map (fun j => i * L + j)) &&
  (List.range L).all (fun c => (H.getD (D + c) []).filter (· < k) == (List.range D).map (fun j => j * L + c))

/-- staircase shape (no repeated entry; each check's own repair symbol has the largest ESI of the check): with `wfCheck` and
`coverCheck` the executable form of what the decoder theorems assume.  Same test as `Api.stairCheck`, which the session model runs. -/
def stairCheck (k : Nat) (H : List (List Nat)) : Bool :=
  (List.range H.length).all fun i =>
    decide (H.getD i []).Nodup && (H.getD i []).contains (k + i) && (H.getD i []).all (fun e => e == k + i || e < k + i)

def coverCheck (n : Nat) (H : List (List Nat)) : Bool := (List.range n).all fun e => H.any (·.contains e)

namespace Parity2D
open List
variable {k D L : Nat}

theorem le_sqrt {d n : Nat} : d ≤ n.sqrt ↔ d * d ≤ n :=
  ⟨fun h => Nat.le_trans (Nat.mul_self_le_mul_self_iff.mpr h) n.sqrt_le,
    fun h => Nat.le_of_lt_succ (Nat.mul_self_lt_mul_self_iff.mp (Nat.lt_of_le_of_lt h n.lt_succ_sqrt))⟩

/-- the candidates of the search: d = ⌊√n⌋, …, 1 -/
theorem mem_candidates {d n : Nat} : d ∈ (range n.sqrt).reverse.map (· + 1) ↔ 1 ≤ d ∧ d * d ≤ n := by
  rw [← le_sqrt]
  simp only [mem_map, mem_reverse, mem_range]
  constructor
  · rintro ⟨a, ha, rfl⟩
    exact ⟨Nat.succ_pos a, ha⟩
  · rintro ⟨h1, h2⟩
    exact ⟨d - 1, Nat.sub_one_lt_of_le h1 h2, Nat.sub_add_cancel h1⟩

/-- the search succeeds exactly when a product shape exists; n < 25² keeps every candidate among the 25 that `acceptSpec` tries -/
theorem isSome_dims (k r : Nat) (hn : k + r < 625) : (dims k r).isSome = acceptSpec k r := by
  rw [Bool.eq_iff_iff, dims, acceptSpec]
  split
  · rename_i h
    simp [Nat.not_lt.mpr h]
  · rename_i h
    simp only [findSome?_isSome_iff, mem_candidates, Option.isSome_ite, Bool.and_eq_true, decide_eq_true_eq, any_eq_true, beq_iff_eq,
      mem_range, Nat.not_le.mp h, true_and, and_assoc]
    refine exists_congr fun d => (and_iff_right_of_imp fun hd => ?_).symm
    exact Nat.mul_self_lt_mul_self_iff.mp (Nat.lt_of_le_of_lt hd.2.1 hn)

/-- what the search returns is a product shape -/
theorem dims_eq_some {r : Nat} (h : dims k r = some (D, L)) : D * L = k ∧ D + L = r ∧ L * L ≤ k + r ∧ 0 < D ∧ 0 < L := by
  unfold dims at h
  split at h
  · cases h
  · obtain ⟨d, hd, hf⟩ := exists_of_findSome?_eq_some h
    simp only [Option.ite_none_right_eq_some, Bool.and_eq_true, beq_iff_eq, Option.some.injEq, Prod.mk.injEq] at hf
    obtain ⟨⟨hmod, hsum⟩, rfl, rfl⟩ := hf
    have hmul := Nat.div_mul_cancel (Nat.dvd_of_mod_eq_zero hmod)
    -- k / d ≠ 0, because k = (k / d) · d and r < k + r
    refine ⟨hmul, Nat.add_comm _ _ ▸ hsum, (mem_candidates.mp hd).2, Nat.pos_of_ne_zero fun h0 => ?_, (mem_candidates.mp hd).1⟩
    rw [h0, Nat.zero_mul] at hmul
    omega

theorem length_rowsOf (k D L : Nat) : (rowsOf k D L).length = D + L := by
  simp [rowsOf]

theorem getD_rowsOf_row (k : Nat) {i : Nat} (hi : i < D) :
    (rowsOf k D L).getD i [] = (range L).map (fun j => i * L + j) ++ [k + i] := by
  simp [rowsOf, getD_eq_getElem?_getD, getElem?_append_left, hi]

theorem getD_rowsOf_col (k : Nat) {c : Nat} (hc : c < L) :
    (rowsOf k D L).getD (D + c) [] = (range D).map (fun j => L * j + c) ++ [k + D + c] := by
  simp [rowsOf, getD_eq_getElem?_getD, hc]

theorem cell_lt {i j : Nat} (hi : i < D) (hj : j < L) : i * L + j < D * L :=
  calc i * L + j < i * L + L := Nat.add_lt_add_left hj _
    _ = (i + 1) * L := (Nat.succ_mul i L).symm
    _ ≤ D * L := Nat.mul_le_mul_right L hi

theorem div_lt {s : Nat} (hs : s < D * L) : s / L < D :=
  Nat.div_lt_of_lt_mul (Nat.mul_comm D L ▸ hs)

theorem row_lt {i : Nat} (hi : i < D) : ∀ e ∈ (range L).map (fun j => i * L + j), e < D * L :=
  forall_mem_map.mpr fun _ hj => cell_lt hi (mem_range.mp hj)

theorem col_lt {c : Nat} (hc : c < L) : ∀ e ∈ (range D).map (fun j => L * j + c), e < D * L :=
  forall_mem_map.mpr fun j hj => Nat.mul_comm j L ▸ cell_lt (mem_range.mp hj) hc

/-- every check is: distinct source symbols, at least one, and then the check's own repair symbol -/
theorem getD_rowsOf (hD : 0 < D) (hL : 0 < L) {c : Nat} (hc : c < D + L) :
    ∃ s, (rowsOf (D * L) D L).getD c [] = s ++ [D * L + c] ∧ s.Nodup ∧ 0 < s.length ∧ ∀ e ∈ s, e < D * L := by
  obtain h | h := Nat.lt_or_ge c D
  · refine ⟨_, getD_rowsOf_row _ h, pairwise_lt_range.map _ fun a b hab => ?_, ?_, row_lt h⟩
    · exact Nat.ne_of_lt (Nat.add_lt_add_left hab _)
    · rw [length_map, length_range]
      exact hL
  · obtain ⟨c, rfl⟩ := Nat.exists_eq_add_of_le h
    have hc : c < L := Nat.lt_of_add_lt_add_left hc
    refine ⟨_, by rw [getD_rowsOf_col _ hc, Nat.add_assoc], pairwise_lt_range.map _ fun a b hab => ?_, ?_, col_lt hc⟩
    · exact Nat.ne_of_lt (Nat.add_lt_add_right (Nat.mul_lt_mul_of_pos_left hab hL) c)
    · rw [length_map, length_range]
      exact hD

/-- what `wfCheck` and `stairCheck` ask of an equation `s ++ [k + c]` whose `s` lies below k -/
theorem check_shape {c : Nat} {s : List Nat} (hnd : s.Nodup) (hlt : ∀ e ∈ s, e < k) :
    (s ++ [k + c]).Nodup ∧ k + c ∈ s ++ [k + c] ∧ ∀ e ∈ s ++ [k + c], e = k + c ∨ e < k + c := by
  refine ⟨nodup_append.mpr ⟨hnd, pairwise_singleton _ _, fun a ha b hb => ?_⟩, mem_append_right _ (mem_singleton_self _),
    fun e he => ?_⟩
  · rw [mem_singleton.mp hb]
    exact Nat.ne_of_lt (Nat.lt_add_right c (hlt a ha))
  · exact (mem_append.mp he).elim (fun h => .inr (Nat.lt_add_right c (hlt e h))) fun h => .inl (mem_singleton.mp h)

theorem wfCheck_rowsOf (hD : 0 < D) (hL : 0 < L) : wfCheck (D * L + (D + L)) (rowsOf (D * L) D L) = true := by
  rw [wfCheck_iff, ← forall_getD_nil_iff, length_rowsOf]
  intro c hc
  obtain ⟨s, hs, hnd, hpos, hlt⟩ := getD_rowsOf hD hL hc
  obtain ⟨h1, -, h3⟩ := check_shape (c := c) hnd hlt
  rw [hs]
  refine ⟨h1, fun e he => ?_, ?_⟩
  · have := h3 e he
    omega
  · rw [length_append, length_singleton]
    exact Nat.ne_of_gt (Nat.succ_lt_succ hpos)

theorem stairCheck_rowsOf (hD : 0 < D) (hL : 0 < L) : stairCheck (D * L) (rowsOf (D * L) D L) = true := by
  simp only [stairCheck, all_eq_true, mem_range, Bool.and_eq_true, decide_eq_true_eq, contains_iff_mem, Bool.or_eq_true,
    beq_iff_eq, length_rowsOf]
  intro c hc
  obtain ⟨s, hs, hnd, -, hlt⟩ := getD_rowsOf hD hL hc
  obtain ⟨h1, h2, h3⟩ := check_shape (c := c) hnd hlt
  rw [hs]
  exact ⟨⟨h1, h2⟩, h3⟩

theorem mem_row {i s : Nat} (hL : 0 < L) (hs : s < k) :
    s ∈ (range L).map (fun j => i * L + j) ++ [k + i] ↔ i = s / L := by
  simp only [mem_append, mem_map, mem_range, mem_singleton, Nat.ne_of_lt (Nat.lt_add_right i hs), or_false]
  constructor
  · rintro ⟨j, hj, rfl⟩
    rw [Nat.add_comm, Nat.add_mul_div_right _ _ hL, Nat.div_eq_of_lt hj, Nat.zero_add]
  · rintro rfl
    exact ⟨s % L, Nat.mod_lt s hL, Nat.div_add_mod' s L⟩

theorem mem_col {c s : Nat} (hc : c < L) (hs : s < D * L) :
    s ∈ (range D).map (fun j => L * j + c) ++ [D * L + D + c] ↔ c = s % L := by
  simp only [mem_append, mem_map, mem_range, mem_singleton, Nat.ne_of_lt (Nat.lt_add_right c (Nat.lt_add_right D hs)), or_false]
  constructor
  · rintro ⟨j, hj, rfl⟩
    rw [Nat.mul_add_mod, Nat.mod_eq_of_lt hc]
  · rintro rfl
    exact ⟨s / L, div_lt hs, Nat.div_add_mod s L⟩

theorem length_filter_contains {f : Nat → List Nat} {m a s : Nat} (ha : a < m) (h : ∀ i, i < m → (s ∈ f i ↔ i = a)) :
    (((range m).map f).filter (·.contains s)).length = 1 :=
  Parity.colWeight_eq_length m f s [a] (pairwise_singleton _ a) (fun _ hx => mem_singleton.mp hx ▸ ha)
    fun i hi => (h i hi).trans mem_singleton.symm

theorem filter_ge_check {c : Nat} {s : List Nat} (hlt : ∀ e ∈ s, e < k) : (s ++ [k + c]).filter (· ≥ k) = [k + c] := by
  rw [filter_append, filter_eq_nil_iff.mpr fun e he => by simpa using hlt e he, filter_eq_self.mpr (by simp), nil_append]

theorem filter_lt_check {c : Nat} {s : List Nat} (hlt : ∀ e ∈ s, e < k) : (s ++ [k + c]).filter (· < k) = s := by
  rw [filter_append, filter_eq_self.mpr fun e he => by simpa using hlt e he, filter_eq_nil_iff.mpr (by simp), append_nil]

theorem productCheck_rowsOf (hD : 0 < D) (hL : 0 < L) : productCheck (D * L) D L (rowsOf (D * L) D L) = true := by
  simp only [productCheck, Bool.and_eq_true, beq_iff_eq, all_eq_true, mem_range, length_rowsOf, true_and]
  refine ⟨⟨⟨fun s hs => ⟨?_, ?_⟩, fun c hc => ?_⟩, fun i hi => ?_⟩, fun c hc => ?_⟩
  · rw [rowsOf, take_left' (by simp)]
    exact length_filter_contains (div_lt hs) fun i _ => mem_row hL hs
  · rw [rowsOf, drop_left' (by simp)]
    exact length_filter_contains (Nat.mod_lt s hL) fun c hc => mem_col hc hs
  · obtain ⟨s, hs, -, -, hlt⟩ := getD_rowsOf hD hL hc
    rw [hs, filter_ge_check hlt]
  · rw [getD_rowsOf_row _ hi, filter_lt_check (row_lt hi)]
  · rw [getD_rowsOf_col _ hc, Nat.add_assoc, filter_lt_check (col_lt hc)]
    exact map_congr_left fun j _ => by rw [Nat.mul_comm]

theorem exists_mem_of_mem_getD {H : List (List Nat)} {i e : Nat} (h : e ∈ H.getD i []) : ∃ row ∈ H, e ∈ row :=
  (H.getD_nil_or_mem i).elim (fun h0 => absurd (h0 ▸ h) not_mem_nil) fun hm => ⟨_, hm, h⟩

theorem coverCheck_rowsOf (hD : 0 < D) (hL : 0 < L) : coverCheck (D * L + (D + L)) (rowsOf (D * L) D L) = true := by
  simp only [coverCheck, all_eq_true, mem_range, any_eq_true, contains_iff_mem]
  intro e he
  obtain h | h := Nat.lt_or_ge e (D * L)
  · apply exists_mem_of_mem_getD (i := e / L)
    rw [getD_rowsOf_row _ (div_lt h)]
    exact (mem_row hL h).mpr rfl
  · obtain ⟨c, rfl⟩ := Nat.exists_eq_add_of_le h
    obtain ⟨s, hs, -⟩ := getD_rowsOf hD hL (Nat.lt_of_add_lt_add_left he)
    apply exists_mem_of_mem_getD (i := c)
    rw [hs]
    exact mem_append_right _ (mem_singleton_self _)

end Parity2D
