import OpenFecVerif.Proofs.ListHelper
/-
Value-free model of the iterative decoder (the control skeleton of of_it_decoding.c: which equations
are "armed" with a partial sum, how many unknowns each has, which are examined in step 3) and the proof
that a top-level call returns with NO equation having exactly one unknown symbol (`decode_closed`).
The executable value-level model `IT.decode` (Model/LdpcIT.lean) is shown to refine this
model in `Proofs/ITRefine.lean`.
-/
namespace ITAbs

structure St where
  m     : Nat
  k     : Nat
  rows  : Nat → List Nat
  known : Nat → Bool
  armed : Nat → Bool
  nbu   : Nat → Nat

def St.complete (s : St) : Bool := (List.range s.k).all s.known

def St.mark (s : St) (esi : Nat) : St := { s with known := fun x => if x = esi then true else s.known x }

/-- step 2 on the components of one row; `known` already contains `esi`. -/
def rowStep (known : Nat → Bool) (esi : Nat) (row : List Nat) (armed : Bool) (nbu : Nat) :
    List Nat × Bool × Nat × Bool :=
  if esi ∈ row then
    let nbu' := nbu - 1
    if armed || (nbu' == 1) then
      let row' := row.filter (fun e => !known e)
      (row', true, nbu', row'.length == 1)
    else (row, false, nbu', row.length == 1)
  else (row, armed, nbu, false)

def injectRow (s : St) (esi r : Nat) : St × Bool :=
  let q := rowStep s.known esi (s.rows r) (s.armed r) (s.nbu r)
  ({ s with rows := fun x => if x = r then q.1 else s.rows x,
            armed := fun x => if x = r then q.2.1 else s.armed x,
            nbu := fun x => if x = r then q.2.2.1 else s.nbu x }, q.2.2.2)

def inject (s : St) (esi : Nat) : Nat → St × List Nat
  | 0 => (s, [])
  | r+1 =>
    let p := inject s esi r
    let q := injectRow p.1 esi r
    (q.1, if q.2 then p.2 ++ [r] else p.2)

def St.consume (s : St) (r : Nat) : St :=
  { s with rows := fun x => if x = r then [] else s.rows x,
           armed := fun x => if x = r then false else s.armed x }

mutual
def decode (fuel : Nat) (s : St) (esi : Nat) : St :=
  match fuel with
  | 0 => s
  | fuel+1 =>
    if s.known esi then s else
    let s1 := s.mark esi
    if esi < s.k && s1.complete then s1 else
    let p := inject s1 esi s1.m
    drain fuel p.1 p.2.reverse
termination_by (fuel, 0)
def drain (fuel : Nat) (s : St) (l : List Nat) : St :=
  match l with
  | [] => s
  | r :: rest =>
    if s.complete then s else
    match s.rows r with
    | [e] => drain fuel (decode fuel (s.consume r) e) rest
    | _ => drain fuel s rest
termination_by (fuel, l.length + 1)
end

theorem decode_zero (s : St) (esi : Nat) : decode 0 s esi = s := by
  rw [decode]
theorem decode_succ (fuel : Nat) (s : St) (esi : Nat) : decode (fuel+1) s esi =
    (if s.known esi then s else
      if esi < s.k && (s.mark esi).complete then s.mark esi else
      drain fuel (inject (s.mark esi) esi (s.mark esi).m).1 (inject (s.mark esi) esi (s.mark esi).m).2.reverse) := by
  rw [decode]
theorem drain_nil (fuel : Nat) (s : St) : drain fuel s [] = s := by rw [drain]
theorem drain_cons (fuel : Nat) (s : St) (r : Nat) (rest : List Nat) : drain fuel s (r :: rest) =
    (if s.complete then s else
      match s.rows r with
      | [e] => drain fuel (decode fuel (s.consume r) e) rest
      | _ => drain fuel s rest) := by
  rw [drain]

theorem decode_of_known {s : St} {esi : Nat} (h : s.known esi = true) (fuel : Nat) : decode fuel s esi = s := by
  cases fuel <;> simp [decode, h]

theorem drain_cons_skip {s : St} {r : Nat} (h : ∀ e, s.rows r ≠ [e]) (fuel : Nat) (rest : List Nat) :
    drain fuel s (r :: rest) = if s.complete then s else drain fuel s rest := by
  rw [drain_cons]
  split
  · rfl
  · split
    · exact absurd ‹_› (h _)
    · rfl

theorem drain_cons_single {s : St} {r e : Nat} (h : s.rows r = [e]) (hc : s.complete = false) (fuel : Nat) (rest : List Nat) :
    drain fuel s (r :: rest) = drain fuel (decode fuel (s.consume r) e) rest := by
  rw [drain_cons, hc, h]
  rfl

theorem drain_complete (fuel : Nat) (s : St) (l : List Nat) (hc : s.complete = true) : drain fuel s l = s := by
  cases l with
  | nil => exact drain_nil fuel s
  | cons r rest => rw [drain_cons, if_pos hc]

theorem mark_known (s : St) (esi x : Nat) : (s.mark esi).known x = (if x = esi then true else s.known x) := rfl
theorem mark_mono (s : St) (esi e : Nat) (h : s.known e = true) : (s.mark esi).known e = true := by
  rw [mark_known, h, ite_self]
theorem mark_m (s : St) (esi : Nat) : (s.mark esi).m = s.m := rfl
theorem mark_rows (s : St) (esi : Nat) : (s.mark esi).rows = s.rows := rfl
theorem mark_armed (s : St) (esi : Nat) : (s.mark esi).armed = s.armed := rfl
theorem mark_nbu (s : St) (esi : Nat) : (s.mark esi).nbu = s.nbu := rfl

theorem consume_known (s : St) (r : Nat) : (s.consume r).known = s.known := rfl
theorem consume_m (s : St) (r : Nat) : (s.consume r).m = s.m := rfl
theorem consume_k (s : St) (r : Nat) : (s.consume r).k = s.k := rfl

theorem complete_iff (s : St) : s.complete = true ↔ ∀ i, i < s.k → s.known i = true := by
  simp [St.complete, List.all_eq_true]

theorem complete_mono (s s' : St) (hk : s'.k = s.k) (hmono : ∀ e, s.known e = true → s'.known e = true)
    (hc : s.complete = true) : s'.complete = true :=
  (complete_iff s').2 fun i hi => hmono i ((complete_iff s).1 hc i (hk ▸ hi))

section spec
variable (H : Nat → List Nat)

def unk (s : St) (r : Nat) : List Nat := (H r).filter (fun e => !s.known e)

/-- invariant at call boundaries; `p` = the symbol about to be injected, if any -/
structure Good (s : St) (p : Option Nat) : Prop where
  armedRows : ∀ r, r < s.m → s.armed r = true → s.rows r = unk H s r ∧ (unk H s r).length ≤ 1
  plainRows : ∀ r, r < s.m → s.armed r = false →
      (s.rows r = H r ∧ s.nbu r = (unk H s r).length ∧ (unk H s r).length ≠ 1)
      ∨ (s.rows r = [] ∧ ∀ e ∈ unk H s r, some e = p)

def armed1 (s : St) (r : Nat) : Prop := s.armed r = true ∧ (unk H s r).length = 1

end spec

theorem length_filter_ne_of_nodup {l : List Nat} (hn : l.Nodup) {a : Nat} (ha : a ∈ l) :
    (l.filter (fun e => e != a)).length + 1 = l.length := by
  have := List.length_pos_of_mem ha
  rw [← hn.erase_eq_filter, List.length_erase_of_mem ha]
  omega

theorem filter_ne_of_not_mem {l : List Nat} {a : Nat} (ha : a ∉ l) :
    l.filter (fun e => e != a) = l :=
  List.filter_eq_self.2 fun _ he => bne_iff_ne.2 fun h => ha (h ▸ he)

def ul (H : Nat → List Nat) (known : Nat → Bool) (r : Nat) : List Nat := (H r).filter (fun e => !known e)

/-- what `Good` asks of one row, on the components that `rowStep` takes and returns (`good_iff`) -/
def RowOK (H : Nat → List Nat) (known : Nat → Bool) (p : Option Nat) (r : Nat)
    (row : List Nat) (armed : Bool) (nbu : Nat) : Prop :=
  (armed = true → row = ul H known r ∧ (ul H known r).length ≤ 1) ∧
  (armed = false →
      (row = H r ∧ nbu = (ul H known r).length ∧ (ul H known r).length ≠ 1)
      ∨ (row = [] ∧ ∀ e ∈ ul H known r, some e = p))

theorem good_iff (H : Nat → List Nat) (s : St) (p : Option Nat) :
    Good H s p ↔ ∀ r, r < s.m → RowOK H s.known p r (s.rows r) (s.armed r) (s.nbu r) :=
  ⟨fun g r hr => ⟨g.armedRows r hr, g.plainRows r hr⟩, fun h => ⟨fun r hr => (h r hr).1, fun r hr => (h r hr).2⟩⟩

def Armed1 (H : Nat → List Nat) (s : St) (r : Nat) : Prop :=
  s.armed r = true ∧ (ul H s.known r).length = 1

theorem rowOK_none_some (H : Nat → List Nat) (known : Nat → Bool) (e r : Nat) (row : List Nat) (armed : Bool) (nbu : Nat)
    (h : RowOK H known none r row armed nbu) : RowOK H known (some e) r row armed nbu :=
  ⟨h.1, fun ha => (h.2 ha).imp_right fun ⟨h1, h2⟩ => ⟨h1, fun e' he' => nomatch h2 e' he'⟩⟩

theorem good_of_none (H : Nat → List Nat) (s : St) (hg : Good H s none) (p : Option Nat) : Good H s p := by
  cases p with
  | none => exact hg
  | some e => exact (good_iff H s _).2 fun r hr => rowOK_none_some H s.known e r _ _ _ ((good_iff H s none).1 hg r hr)

theorem rowOK_single {H : Nat → List Nat} {known : Nat → Bool} {r e : Nat} {armed : Bool} {nbu : Nat}
    (h : RowOK H known none r [e] armed nbu) : e ∈ H r ∧ ∀ e' ∈ ul H known r, e' = e := by
  cases armed with
  | true =>
    have hu := (h.1 rfl).1
    exact ⟨(List.mem_filter.1 (hu ▸ List.mem_singleton_self e)).1, fun e' he' => List.mem_singleton.1 (hu ▸ he')⟩
  | false =>
    rcases h.2 rfl with ⟨h1, _⟩ | ⟨h1, _⟩
    · exact ⟨h1 ▸ List.mem_singleton_self e, fun e' he' => List.mem_singleton.1 (h1 ▸ (List.mem_filter.1 he').1)⟩
    · cases h1

/-- consuming equation `r` leaves an empty disarmed row: fine if its unknowns are all `p` -/
theorem good_consume {H : Nat → List Nat} {s : St} {r : Nat} {p : Option Nat} (hg : Good H s none)
    (hp : ∀ e ∈ ul H s.known r, some e = p) : Good H (s.consume r) p := by
  rw [good_iff]
  intro x hx
  by_cases hxr : x = r
  · subst hxr
    simpa [St.consume, RowOK] using Or.inr hp
  · simpa [St.consume, hxr] using (good_iff H s p).1 (good_of_none H s hg p) x hx

def markK (known : Nat → Bool) (esi : Nat) : Nat → Bool := fun x => if x = esi then true else known x

theorem filter_not_markK (known : Nat → Bool) (esi : Nat) (l : List Nat) :
    l.filter (fun e => !markK known esi e) = (l.filter (fun e => !known e)).filter (fun e => e != esi) := by
  rw [List.filter_filter]
  exact List.filter_congr fun e _ => by by_cases he : e = esi <;> simp [markK, he]

theorem ul_mark (H : Nat → List Nat) (known : Nat → Bool) (esi r : Nat) :
    ul H (markK known esi) r = (ul H known r).filter (fun e => e != esi) :=
  filter_not_markK known esi (H r)

theorem unk_mark (H : Nat → List Nat) (s : St) (esi r : Nat) :
    unk H (s.mark esi) r = (unk H s r).filter (fun e => e != esi) :=
  ul_mark H s.known esi r

theorem filter_mark_ul (H : Nat → List Nat) (known : Nat → Bool) (esi r : Nat) :
    (ul H known r).filter (fun e => !markK known esi e) = ul H (markK known esi) r := by
  rw [filter_not_markK, ul_mark]
  congr 1
  exact List.filter_eq_self.2 fun _ he => (List.mem_filter.1 he).2

/-- Step 2 keeps the invariant of a row; a row it reports is armed with one unknown left, and a row armed with one unknown left
    is reported unless it was so before. -/
theorem rowStep_ok (H : Nat → List Nat) (known : Nat → Bool) (esi r : Nat)
    (row : List Nat) (armed : Bool) (nbu : Nat)
    (hnd : (H r).Nodup) (hunk : known esi = false)
    (h : RowOK H known (some esi) r row armed nbu) :
    RowOK H (markK known esi) none r
        (rowStep (markK known esi) esi row armed nbu).1
        (rowStep (markK known esi) esi row armed nbu).2.1
        (rowStep (markK known esi) esi row armed nbu).2.2.1 ∧
    ((rowStep (markK known esi) esi row armed nbu).2.2.2 = true →
        (rowStep (markK known esi) esi row armed nbu).2.1 = true ∧ (ul H (markK known esi) r).length = 1 ∧
        (rowStep (markK known esi) esi row armed nbu).1 = ul H (markK known esi) r) ∧
    ((rowStep (markK known esi) esi row armed nbu).2.1 = true → (ul H (markK known esi) r).length = 1 →
        (rowStep (markK known esi) esi row armed nbu).2.2.2 = true ∨ (armed = true ∧ (ul H known r).length = 1)) := by
  have hU' := ul_mark H known esi r
  have hmemU : esi ∈ ul H known r ↔ esi ∈ H r := by simp [ul, hunk]
  -- the unknowns of the equation after marking: one fewer if esi was among them, else the same
  have hdrop : esi ∈ ul H known r → (ul H (markK known esi) r).length + 1 = (ul H known r).length := fun hm =>
    hU' ▸ length_filter_ne_of_nodup (hnd.filter _) hm
  have hkeep : esi ∉ ul H known r → ul H (markK known esi) r = ul H known r := fun hm =>
    hU' ▸ filter_ne_of_not_mem hm
  -- by the three shapes `RowOK` allows; in each, `simp` evaluates `rowStep` and the facts above close what is left
  cases armed with
  | true =>
    -- armed: the row is the list of unknowns, before and after, and that list has at most one entry
    obtain ⟨rfl, hle⟩ := h.1 rfl
    by_cases hmem : esi ∈ ul H known r
    · have := hdrop hmem
      simp [rowStep, hmem, filter_mark_ul, RowOK]
      omega
    · simp [rowStep, hmem, hkeep hmem, RowOK, hle]
  | false =>
    rcases h.2 rfl with ⟨rfl, rfl, hne⟩ | ⟨rfl, hall⟩
    · -- plain: the row is all of `H r`, `nbu` counts its unknowns
      by_cases hmem : esi ∈ H r
      · have := hdrop (hmemU.2 hmem)
        have : (ul H known r).length ≤ (H r).length := List.length_filter_le _ _
        by_cases h1 : (ul H known r).length - 1 = 1
        · -- one unknown left: the equation gets a partial sum and is reported
          have hrow : (H r).filter (fun e => !markK known esi e) = ul H (markK known esi) r := rfl
          simp [rowStep, hmem, h1, RowOK, hrow]
          omega
        · simp [rowStep, hmem, h1, RowOK]
          exact ⟨Or.inl ⟨by omega, by omega⟩, by omega⟩
      · simp [rowStep, hmem, hkeep (mt hmemU.1 hmem), RowOK, hne]
    · -- consumed: its only possible unknown was esi, so none is left
      have : ul H (markK known esi) r = [] := by
        rw [hU', List.filter_eq_nil_iff]
        intro e he
        simp [Option.some.inj (hall e he)]
      simp [rowStep, RowOK, this]

theorem injectRow_fst (s : St) (esi r : Nat) :
    (injectRow s esi r).1.known = s.known ∧ (injectRow s esi r).1.m = s.m ∧ (injectRow s esi r).1.k = s.k := by
  simp [injectRow]

theorem inject_spec (s : St) (esi : Nat) (R : Nat) :
    (inject s esi R).1.known = s.known ∧ (inject s esi R).1.m = s.m ∧ (inject s esi R).1.k = s.k ∧
    (∀ r, R ≤ r → (inject s esi R).1.rows r = s.rows r ∧ (inject s esi R).1.armed r = s.armed r ∧
                   (inject s esi R).1.nbu r = s.nbu r) ∧
    (∀ r, r < R → (inject s esi R).1.rows r = (rowStep s.known esi (s.rows r) (s.armed r) (s.nbu r)).1 ∧
                  (inject s esi R).1.armed r = (rowStep s.known esi (s.rows r) (s.armed r) (s.nbu r)).2.1 ∧
                  (inject s esi R).1.nbu r = (rowStep s.known esi (s.rows r) (s.armed r) (s.nbu r)).2.2.1) ∧
    (∀ r, r ∈ (inject s esi R).2 ↔ r < R ∧ (rowStep s.known esi (s.rows r) (s.armed r) (s.nbu r)).2.2.2 = true) := by
  induction R with
  | zero => simp [inject]
  | succ R ih =>
    obtain ⟨hk, hm, hkk, hge, hlt, hmem⟩ := ih
    obtain ⟨h1, h2, h3⟩ := hge R (Nat.le_refl R)
    -- equation R is still as in `s`, so the step taken on it is the step on `s`
    simp only [inject, injectRow, hk, hm, hkk, h1, h2, h3]
    refine ⟨trivial, trivial, trivial, fun r hr => ?_, fun r hr => ?_, fun r => ?_⟩
    · simp [show r ≠ R by omega, hge r (by omega)]
    · by_cases hrR : r = R
      · simp [hrR]
      · simp [hrR, hlt r (by omega)]
    · by_cases hrR : r = R
      · -- equation R itself is not yet in the list
        have : R ∉ (inject s esi R).2 := fun h => Nat.lt_irrefl R ((hmem R).1 h).1
        split <;> simp [*]
      · rw [show r < R + 1 ↔ r < R by omega, ← hmem]
        split <;> simp [hrR]

theorem inject_good (H : Nat → List Nat) (hnd : ∀ r, (H r).Nodup) (s : St) (esi : Nat)
    (hg : Good H s (some esi)) (hk : s.known esi = false) :
    Good H (inject (s.mark esi) esi s.m).1 none ∧
    (inject (s.mark esi) esi s.m).1.m = s.m ∧ (inject (s.mark esi) esi s.m).1.k = s.k ∧
    (inject (s.mark esi) esi s.m).1.known = markK s.known esi ∧
    (∀ r, r < s.m → Armed1 H (inject (s.mark esi) esi s.m).1 r →
        r ∈ (inject (s.mark esi) esi s.m).2 ∨ Armed1 H s r) ∧
    (∀ r, r ∈ (inject (s.mark esi) esi s.m).2 → r < s.m) := by
  obtain ⟨hkn, hm, hkk, _, hlt, hmem⟩ := inject_spec (s.mark esi) esi s.m
  have hkn' : (inject (s.mark esi) esi s.m).1.known = markK s.known esi := hkn
  have ok := fun r (hr : r < s.m) =>
    rowStep_ok H s.known esi r (s.rows r) (s.armed r) (s.nbu r) (hnd r) hk ((good_iff H s (some esi)).1 hg r hr)
  refine ⟨?_, hm, hkk, hkn', ?_, fun r hr => ((hmem r).1 hr).1⟩
  · rw [good_iff]
    intro r hr
    obtain ⟨h1, h2, h3⟩ := hlt r (hm ▸ hr)
    rw [hkn', h1, h2, h3]
    exact (ok r (hm ▸ hr)).1
  · rintro r hr ⟨ha1, ha2⟩
    rw [(hlt r hr).2.1] at ha1
    rw [hkn'] at ha2
    exact ((ok r hr).2.2 ha1 ha2).imp_left fun hf => (hmem r).2 ⟨hr, hf⟩

def cnt (n : Nat) (known : Nat → Bool) : Nat := ((List.range n).filter (fun e => !known e)).length

theorem cnt_mark (n : Nat) (known : Nat → Bool) (esi : Nat) (hk : known esi = false) (hn : esi < n) :
    cnt n (markK known esi) + 1 = cnt n known := by
  unfold cnt
  rw [filter_not_markK]
  exact length_filter_ne_of_nodup (List.nodup_range.filter _) (by simp [hk, hn])

/-- What a run from `s` to `s'` that examined the equations `excl` leaves behind: unless `s'` is complete, an equation armed with
    one unknown in `s'` was so already in `s` and is not in `excl`.  So a top-level call, which starts with no such equation, ends
    with none. -/
def Post (H : Nat → List Nat) (D : Nat → Prop) (s s' : St) (excl : List Nat) : Prop :=
  s'.m = s.m ∧ s'.k = s.k ∧ (∀ e, s.known e = true → s'.known e = true) ∧
  (s'.complete = true ∨ (Good H s' none ∧ ∀ r, r < s.m → Armed1 H s' r → Armed1 H s r ∧ r ∉ excl)) ∧
  (∀ e, s'.known e = true → D e)

section post
variable {H : Nat → List Nat} {D : Nat → Prop} {s s1 s2 : St} {ex ex1 : List Nat}

theorem Post.refl (hs : s.complete = true ∨ (Good H s none ∧ ∀ r ∈ ex, ¬Armed1 H s r))
    (hD0 : ∀ x, s.known x = true → D x) : Post H D s s ex :=
  ⟨rfl, rfl, fun _ h => h, hs.imp_right fun ⟨hg, hex⟩ => ⟨hg, fun r _ ha => ⟨ha, fun hr => hex r hr ha⟩⟩, hD0⟩

/-- Change of origin.  `s1` continues `s`; an equation armed with one unknown in `s1` that the run from `s1` leaves
    alone (it is not in `ex1`) was already so armed in `s`, and is not in `ex`. -/
theorem Post.rebase (hm : s1.m = s.m) (hk : s1.k = s.k) (hmono : ∀ e, s.known e = true → s1.known e = true)
    (ha : s1.complete = true ∨ ∀ r, r < s.m → Armed1 H s1 r → r ∉ ex1 → Armed1 H s r ∧ r ∉ ex)
    (h : Post H D s1 s2 ex1) : Post H D s s2 ex := by
  obtain ⟨m2, k2, mono2, p2, d2⟩ := h
  refine ⟨m2.trans hm, k2.trans hk, fun e he => mono2 e (hmono e he), ?_, d2⟩
  rcases p2 with c | ⟨g2, a2⟩
  · exact Or.inl c
  rcases ha with c | ha
  · exact Or.inl (complete_mono s1 s2 k2 mono2 c)
  · exact Or.inr ⟨g2, fun r hr h2 => have ⟨h1, hn⟩ := a2 r (hm ▸ hr) h2; ha r hr h1 hn⟩

theorem Post.trans {ex2 : List Nat} (h1 : Post H D s s1 ex1) (h2 : Post H D s1 s2 ex2) : Post H D s s2 (ex1 ++ ex2) :=
  Post.rebase h1.1 h1.2.1 h1.2.2.1
    (h1.2.2.2.1.imp_right fun ⟨_, a⟩ r hr ha hn => have ⟨h0, hn1⟩ := a r hr ha; ⟨h0, by simp [hn1, hn]⟩) h2

/-- consuming equation `r` first: it is disarmed, so it is not among the equations armed with one unknown afterwards -/
theorem Post.of_consume {r : Nat} (h : Post H D (s.consume r) s2 ex) : Post H D s s2 (r :: ex) := by
  refine Post.rebase (s1 := s.consume r) rfl rfl (fun _ h => h) (Or.inr ?_) h
  rintro x - ⟨h1, h2⟩ hn
  have hxr : x ≠ r := by rintro rfl; simp [St.consume] at h1
  exact ⟨⟨by simpa [St.consume, hxr] using h1, h2⟩, by simp [hxr, hn]⟩

end post

section main
variable (H : Nat → List Nat) (n : Nat) (hlt : ∀ r e, e ∈ H r → e < n)
-- `D` is any set of symbols closed under peeling: if all members of an equation but one are in `D`, so is the last
variable (D : Nat → Prop) (hD : ∀ r e, e ∈ H r → (∀ e', e' ∈ H r → e' ≠ e → D e') → D e)

/-- what a call of `decode` (`PA`) and a run of `drain` over a list of equations (`PB`) promise with `fuel` to spare: the two halves of the
induction on the fuel (`PA_succ` from `PB`, `PB_of_PA` by induction on the list) -/
def PA (fuel : Nat) : Prop := ∀ s esi, Good H s (some esi) → s.known esi = false → esi < n →
    cnt n s.known ≤ fuel → (∀ x, s.known x = true → D x) → D esi → Post H D s (decode fuel s esi) []
def PB (fuel : Nat) : Prop := ∀ l s, (s.complete = true ∨ Good H s none) → cnt n s.known ≤ fuel →
    (∀ r, r ∈ l → r < s.m) → (∀ x, s.known x = true → D x) → Post H D s (drain fuel s l) l

theorem cnt_mono (k1 k2 : Nat → Bool) (h : ∀ e, k1 e = true → k2 e = true) : cnt n k2 ≤ cnt n k1 := by
  unfold cnt
  rw [← List.countP_eq_length_filter, ← List.countP_eq_length_filter]
  exact List.countP_mono_left fun e _ h2 => by cases h1 : k1 e <;> simp_all

theorem cnt_le (known : Nat → Bool) : cnt n known ≤ n := ListHelper.count_range_le _ n

include hlt hD in
theorem PB_of_PA (fuel : Nat) (hA : PA H n D fuel) : PB H n D fuel := by
  intro l
  induction l with
  | nil =>
    intro s hs _ _ hD0
    rw [drain_nil]
    exact Post.refl (hs.imp_right fun hg => ⟨hg, nofun⟩) hD0
  | cons r rest ih =>
    intro s hs hcnt hl hD0
    by_cases hc : s.complete = true
    · rw [drain_complete _ _ _ hc]
      exact Post.refl (Or.inl hc) hD0
    have hg : Good H s none := hs.resolve_left hc
    have hr : r < s.m := hl r (by simp)
    -- the rest of the list, run from the state `s2` that the head left behind
    have key : ∀ s2 : St, Post H D s s2 [r] → Post H D s (drain fuel s2 rest) (r :: rest) := fun s2 h =>
      have ⟨hm2, _, hmono, h2, hD2⟩ := h
      h.trans (ih s2 (h2.imp_right And.left) (Nat.le_trans (cnt_mono n _ _ hmono) hcnt)
        (fun x hx => hm2 ▸ hl x (List.mem_cons_of_mem _ hx)) hD2)
    have hrowOK := (good_iff H s none).1 hg r hr
    by_cases hrow : ∃ e, s.rows r = [e]
    case neg =>
      -- not a one-entry row: it cannot be armed with one unknown, since an armed row is its list of unknowns
      rw [drain_cons_skip (by simpa using hrow), if_neg hc]
      refine key s (Post.refl (Or.inr ⟨hg, fun x hx hax => ?_⟩) hD0)
      obtain rfl := List.mem_singleton.1 hx
      obtain ⟨e, he⟩ := List.length_eq_one_iff.1 hax.2
      exact hrow ⟨e, (hrowOK.1 hax.1).1.trans he⟩
    obtain ⟨e, hrow⟩ := hrow
    rw [drain_cons_single hrow (by simpa using hc)]
    obtain ⟨heH, hU⟩ := rowOK_single (hrow ▸ hrowOK)
    cases hk : s.known e with
    | true =>
      -- the entry is known already (a plain equation of one member): nothing is decoded, and the equation has no unknown
      rw [decode_of_known (s := s.consume r) hk]
      refine key _ (Post.of_consume (Post.refl (Or.inr ⟨good_consume hg fun e' he' => ?_, nofun⟩) hD0))
      have := (List.mem_filter.1 he').2
      rw [hU e' he', hk] at this
      cases this
    | false =>
      -- every other member of equation r is known, hence in D; so the decoded symbol is in D
      have hDe : D e := hD r e heH fun e' he' hne => hD0 e' <| by
        cases hk' : s.known e' with
        | true => rfl
        | false => exact absurd (hU e' (List.mem_filter.2 ⟨he', by simp [hk']⟩)) hne
      exact key _ (hA (s.consume r) e (good_consume hg fun e' he' => congrArg some (hU e' he')) hk (hlt r e heH)
        hcnt hD0 hDe).of_consume

variable (hnd : ∀ r, (H r).Nodup)

theorem cnt_pos_of_unknown (known : Nat → Bool) (esi : Nat) (hk : known esi = false) (hn : esi < n) :
    0 < cnt n known := by
  have := cnt_mark n known esi hk hn
  omega

theorem PA_zero : PA H n D 0 := fun s esi _ hk hn hc =>
  absurd hc (Nat.not_le.2 (cnt_pos_of_unknown n s.known esi hk hn))

include hnd in
theorem PA_succ (fuel : Nat) (hB : PB H n D fuel) : PA H n D (fuel+1) := by
  intro s esi hg hk hn hc hD0 hDesi
  have hDmark : ∀ x, markK s.known esi x = true → D x := fun x hx => by
    unfold markK at hx
    split at hx
    · exact ‹x = esi› ▸ hDesi
    · exact hD0 x hx
  have hcm := cnt_mark n s.known esi hk hn
  rw [decode_succ, if_neg (by simp [hk])]
  split
  · next hcomp => exact ⟨rfl, rfl, mark_mono s esi, Or.inl (Bool.and_eq_true_iff.1 hcomp).2, hDmark⟩
  · obtain ⟨ig, im, ik, ikn, iarm, imem⟩ := inject_good H hnd s esi hg hk
    refine Post.rebase im ik (ikn ▸ mark_mono s esi) (Or.inr fun r hr ha hn => ⟨?_, nofun⟩)
      (hB _ _ (Or.inr ig) (by rw [ikn]; omega) (fun r hr => im.symm ▸ imem r (List.mem_reverse.1 hr)) (ikn ▸ hDmark))
    -- an equation armed with one unknown after step 2 is in the list or was so armed before
    exact (iarm r hr ha).resolve_left fun h => hn (List.mem_reverse.2 h)

include hlt hnd hD in
theorem PA_all : ∀ fuel, PA H n D fuel
  | 0 => PA_zero H n D
  | fuel+1 => PA_succ H n D hnd fuel (PB_of_PA H n hlt D hD fuel (PA_all fuel))

include hlt hnd hD in
/-- A top-level call on a state in which no equation is armed with one unknown either completes the block or leaves no equation
    with exactly one unknown, armed or not; every symbol known afterwards lies in any peeling-closed set `D` that holds the symbols
    known before and the new one.  That the new symbol itself is known afterwards is `ITAbs.decode_knows` (Proofs/ITSeq.lean). -/
theorem decode_closed (s : St) (esi fuel : Nat) (hg : Good H s none) (hk : s.known esi = false) (hn : esi < n)
    (hfuel : cnt n s.known ≤ fuel) (hno : ∀ r, r < s.m → ¬ Armed1 H s r)
    (hD0 : ∀ x, s.known x = true → D x) (hDesi : D esi) :
    ((decode fuel s esi).complete = true ∨
    (Good H (decode fuel s esi) none ∧ ∀ r, r < s.m → (ul H (decode fuel s esi).known r).length ≠ 1)) ∧
    (decode fuel s esi).m = s.m ∧ (decode fuel s esi).k = s.k ∧
    (∀ e, s.known e = true → (decode fuel s esi).known e = true) ∧
    (∀ e, (decode fuel s esi).known e = true → D e) := by
  obtain ⟨pm, pk, pmono, pp, pd⟩ := PA_all H n hlt D hD hnd fuel s esi (good_of_none H s hg _) hk hn hfuel hD0 hDesi
  refine ⟨pp.imp_right fun ⟨h1, h2⟩ => ⟨h1, fun r hr hlen => ?_⟩, pm, pk, pmono, pd⟩
  have hrow := (good_iff H _ none).1 h1 r (pm ▸ hr)
  cases harm : (decode fuel s esi).armed r with
  | true => exact hno r hr (h2 r hr ⟨harm, hlen⟩).1
  | false =>
    rcases hrow.2 harm with ⟨_, _, h3⟩ | ⟨_, h3⟩
    · exact h3 hlen
    · -- empty disarmed row: with nothing about to be injected it has no unknown at all
      obtain ⟨a, ha⟩ := List.length_eq_one_iff.1 hlen
      exact nomatch h3 a (ha ▸ List.mem_singleton_self a)
end main

end ITAbs
