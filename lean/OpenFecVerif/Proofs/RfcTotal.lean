import OpenFecVerif.Proofs.PrimRoot
import OpenFecVerif.Proofs.Rand
/-!
# The RFC 5170 construction always returns a matrix (termination of the rejection loops)

From any valid state s a rejection loop sees the scaled outputs of the states pm s, pm (pm s), …; the j-th of them is 16807^j · pm s mod P.
Since 16807 is a primitive root modulo the prime P = 2^31 − 1 (`PrimRoot.orbit`), one of the first P − 1 states is the state
`RandProofs.target m v` whose scaled output is a given acceptable value v (`RandProofs.scaled_hit`, for every bound below 2^30 and every
rounding operator of the binary64 standard model), and the model's fuel is 2^31 > P − 1: this is `RfcWF.DrawTotal`.  Every rejection
loop of the construction is entered with an acceptable value (`RfcWF.addOne_ret`, `fixRows_ret`), so `create_ret` applies.
-/
namespace RfcTotal
open Rfc5170 RfcWF RandProofs Gen

variable {rn : ℚ → ℚ}

/-- if the scaled output of the state `t` is acceptable and `t` is the (j+1)-st state after `s`, a loop with more than j draws of fuel
returns -/
theorem drawUntil_hits (m : ℕ) (accept : ℕ → Bool) (t : ℕ)
    (hacc : ∀ s, SeedOk s → pm s = t → accept (of_rfc5170_rand rn s m).2 = true) :
    ∀ (j s : ℕ), SeedOk s → pmIter (j + 1) s = t → ∀ fuel, j < fuel → (drawUntil rn m accept fuel s).isSome = true := by
  intro j s hs ht fuel hf
  induction fuel generalizing j s with
  | zero => cases hf
  | succ f ih =>
    rw [drawUntil]
    split
    · rfl
    · cases j with
      | zero => exact absurd (hacc s hs ht) ‹_›
      | succ j =>
        rw [step_ok rn s m hs.1 hs.2]
        exact ih j (pm s) (pm_range s hs.1 hs.2) ht (Nat.lt_of_succ_lt_succ hf)

theorem drawTotal (h : RN53 rn) : DrawTotal rn := by
  intro m accept v s hm hv hacc hs
  have hm1 : 1 ≤ m := by omega
  obtain ⟨ht1, ht2, _, _⟩ := target_spec m v hm1 hm hv
  have hps := pm_range s hs.1 hs.2
  obtain ⟨j, hj, hjt⟩ := PrimRoot.orbit (pm s) (target m v) hps.1 (Nat.lt_succ_of_le hps.2) ht1 (Nat.lt_succ_of_le ht2)
  refine drawUntil_hits m accept (target m v) (fun s' hs' hpm => ?_) j s hs ((pmIter_succ j s).trans hjt) _
    (Nat.lt_trans hj (by decide))
  rw [out_eq, step_ok rn s' m hs'.1 hs'.2, hpm, scaled_hit rn h m v hm1 hm hv]
  exact hacc

/-- **the construction always returns a matrix**: for every rounding operator of the binary64 standard model, N1 ≤ n−k, a valid seed and
sizes below 2^30 (the library's limits are far below), no rejection loop runs out of the 2^31 draws the model allows -/
theorem create_total (h : RN53 rn) {k r N1 seed : ℕ} (g : ℕ) (hk : 1 ≤ k) (hr : 1 ≤ r)
    (hk30 : k < 2 ^ 30) (hr30 : r < 2 ^ 30) (ht30 : N1 * k < 2 ^ 30) (hN : N1 ≤ r) (hs : SeedOk seed) :
    (create rn g k r N1 seed).2.isSome = true :=
  (create_ret (.of_RN53 h) hk hr (by omega) (by omega) (by omega) hs g).isSome ⟨drawTotal h, hN, hk30, hr30, ht30⟩

end RfcTotal
