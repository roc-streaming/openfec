import Mathlib.Data.Rat.Floor
import Mathlib.Tactic.Linarith
import Mathlib.Tactic.Positivity
import OpenFecVerif.CSem
/-!
Standard model of IEEE-754 binary64 arithmetic (no overflow, no underflow):
a rounding operator is exact on integers below 2^53 and has relative error at most 2^-53.
All floating-point theorems are stated `∀ rn, RN53 rn → …`.
-/

structure RN53 (rn : ℚ → ℚ) : Prop where
  exact_int : ∀ m : ℤ, |m| < 2 ^ 53 → rn (m : ℚ) = (m : ℚ)
  relerr : ∀ x : ℚ, |rn x - x| ≤ |x| / 2 ^ 53

/-- the class is inhabited (exact arithmetic is a member) -/
theorem RN53_id : RN53 id := ⟨fun _ _ => rfl, fun x => by simp; positivity⟩

namespace FP

theorem floor_eq (q : ℚ) : Rat.floor q = ⌊q⌋ := rfl

theorem ceil_eq (q : ℚ) : Rat.ceil q = ⌈q⌉ := by
  rw [Rat.ceil_eq_neg_floor_neg, floor_eq, Int.floor_neg, neg_neg]

theorem rabs_eq (x : ℚ) : CSem.rabs x = |x| := by
  unfold CSem.rabs
  split_ifs with h
  · exact (abs_of_neg h).symm
  · exact (abs_of_nonneg (not_lt.mp h)).symm

theorem truncZ_int (z : ℤ) : CSem.truncZ ((z : ℤ) : ℚ) = z := by
  unfold CSem.truncZ
  split
  · rw [floor_eq]; exact Int.floor_intCast z
  · rw [ceil_eq]; exact Int.ceil_intCast z

/-- `(UINTw) x` is `⌊x⌋` for a non-negative `x` in range -/
theorem f2u_eq_floor (w : ℕ) (x : ℚ) (hx : 0 ≤ x) (hlt : ⌊x⌋ < 2 ^ w) : (CSem.f2u w x : ℤ) = ⌊x⌋ := by
  unfold CSem.f2u CSem.truncZ
  simp only [hx, if_true, floor_eq]
  have h0 : 0 ≤ ⌊x⌋ := Int.floor_nonneg.mpr hx
  rw [Int.emod_eq_of_lt h0 (by push_cast; exact hlt)]
  exact Int.toNat_of_nonneg h0

theorem f2u_eq_of_floor_eq {w v : ℕ} {c : ℚ} (hfl : ⌊c⌋ = (v : ℤ)) (hv : v < 2 ^ w) : CSem.f2u w c = v := by
  have := f2u_eq_floor w c (Int.floor_nonneg.mp (hfl ▸ Int.natCast_nonneg v)) (by rw [hfl]; exact_mod_cast hv)
  rw [hfl] at this
  exact_mod_cast this

theorem f2u_eq_of_mem_Ico {w v : ℕ} {c : ℚ} (h1 : (v : ℚ) ≤ c) (h2 : c < v + 1) (hv : v < 2 ^ w) : CSem.f2u w c = v :=
  f2u_eq_of_floor_eq (Int.floor_eq_iff.mpr ⟨by exact_mod_cast h1, by exact_mod_cast h2⟩) hv

theorem f2u_lt_of_lt {w n : ℕ} {c : ℚ} (h0 : 0 ≤ c) (hc : c < n) (hn : n ≤ 2 ^ w) : CSem.f2u w c < n := by
  have hfl : ⌊c⌋ < (n : ℤ) := Int.floor_lt.mpr (by exact_mod_cast hc)
  have := f2u_eq_floor w c h0 (hfl.trans_le (by exact_mod_cast hn))
  exact_mod_cast this ▸ hfl

theorem f2u_nat (w : ℕ) (n : ℕ) (hlt : n < 2 ^ w) : CSem.f2u w (((n : ℕ) : ℤ) : ℚ) = n :=
  f2u_eq_of_floor_eq (Int.floor_intCast _) hlt

theorem rn_nat {rn : ℚ → ℚ} (h : RN53 rn) (n : ℕ) (hn : n < 2 ^ 53) : rn ((n : ℕ) : ℚ) = (n : ℚ) := by
  have := h.exact_int (n : ℤ) (by rw [Nat.abs_cast]; exact_mod_cast hn)
  rwa [Int.cast_natCast] at this

theorem abs_rn_sub_lt {rn : ℚ → ℚ} (h : RN53 rn) {x δ : ℚ} (hx : |x| < 2 ^ 53 * δ) : |rn x - x| < δ :=
  (h.relerr x).trans_lt (by rwa [div_lt_iff₀ (by positivity), mul_comm])

theorem rn_near {rn : ℚ → ℚ} (h : RN53 rn) {x y e B : ℚ} (hy : |y - x| ≤ e) (hx : |x| ≤ B) :
    |rn y - x| ≤ e + (B + e) / 2 ^ 53 := by
  have h1 : |y| ≤ B + e := (sub_le_iff_le_add'.mp (abs_sub_abs_le_abs_sub y x)).trans (add_le_add hx hy)
  calc |rn y - x| ≤ |rn y - y| + |y - x| := abs_sub_le _ _ _
    _ ≤ (B + e) / 2 ^ 53 + e := add_le_add ((h.relerr y).trans (div_le_div_of_nonneg_right h1 (by positivity))) hy
    _ = e + (B + e) / 2 ^ 53 := add_comm _ _

/-- Three roundings in a chain, each result entering the next argument through an affine map (slopes `c₂`, `c₃`).  With `x₁, x₂, x₃`
the exact values of the three arguments, the last result is within `4·B·2^-53` of `x₃` as soon as each `xᵢ`, carried through the
slopes still ahead of it, stays below `B` in magnitude. -/
theorem rn_chain {rn : ℚ → ℚ} (h : RN53 rn) {x₁ x₂ x₃ y₂ y₃ c₂ c₃ B : ℚ}
    (h₂ : y₂ - x₂ = (rn x₁ - x₁) * c₂) (h₃ : y₃ - x₃ = (rn y₂ - x₂) * c₃)
    (b₁ : |x₁ * c₂ * c₃| ≤ B) (b₂ : |x₂ * c₃| ≤ B) (b₃ : |x₃| ≤ B) : |rn y₃ - x₃| ≤ B / 2 ^ 51 := by
  have e₁ : |y₂ - x₂| ≤ |x₁| / 2 ^ 53 * |c₂| := by
    rw [h₂, abs_mul]; exact mul_le_mul_of_nonneg_right (h.relerr x₁) (abs_nonneg _)
  have e₂ : |y₃ - x₃| ≤ (|x₁| / 2 ^ 53 * |c₂| + (|x₂| + |x₁| / 2 ^ 53 * |c₂|) / 2 ^ 53) * |c₃| := by
    rw [h₃, abs_mul]; exact mul_le_mul_of_nonneg_right (rn_near h e₁ le_rfl) (abs_nonneg _)
  rw [abs_mul, abs_mul] at b₁
  rw [abs_mul] at b₂
  -- the bound of `rn_near h e₂ b₃` is linear in |x₁|·|c₂|·|c₃| ≤ B, |x₂|·|c₃| ≤ B and B, and comes to B·((1 + 2^-53)^3 − 1)
  linarith only [rn_near h e₂ b₃, (abs_nonneg x₃).trans b₃, b₁, b₂]

theorem div_eq_div_add_mod (X P : ℕ) (hP : 1 ≤ P) : (X : ℚ) / P = (X / P : ℕ) + (X % P : ℕ) / (P : ℚ) := by
  have hPq : (P : ℚ) ≠ 0 := by exact_mod_cast (Nat.pos_iff_ne_zero.mp hP)
  rw [eq_comm, eq_div_iff hPq, add_mul, div_mul_cancel₀ _ hPq]
  exact_mod_cast Nat.div_add_mod' X P

/-- The quotient of a natural `X < 2^53` by a natural `P ≥ 1`, computed in binary64, keeps its place among the integers: it is
returned exactly when it is an integer, and stays strictly between its neighbours otherwise (the exact quotient is at distance
≥ 1/P from them while the rounding error is < 2^53/P · 2^-53 = 1/P). -/
theorem rn_div_cases {rn : ℚ → ℚ} (h : RN53 rn) {X P : ℕ} (hX : X < 2 ^ 53) (hP : 1 ≤ P) :
    (X % P = 0 ∧ rn ((X : ℚ) / P) = (X / P : ℕ)) ∨
    (X % P ≠ 0 ∧ ((X / P : ℕ) : ℚ) < rn ((X : ℚ) / P) ∧ rn ((X : ℚ) / P) < (X / P : ℕ) + 1) := by
  have hPq : (0 : ℚ) < P := by exact_mod_cast hP
  have hq := div_eq_div_add_mod X P hP
  rcases Nat.eq_zero_or_pos (X % P) with h0 | h0
  · left
    rw [hq, h0, Nat.cast_zero, zero_div, add_zero]
    exact ⟨rfl, rn_nat h _ ((Nat.div_le_self _ _).trans_lt hX)⟩
  · right
    have herr := abs_lt.mp (abs_rn_sub_lt h (x := (X : ℚ) / P) (δ := 1 / P) (by
      rw [abs_of_nonneg (by positivity), mul_one_div]
      exact div_lt_div_of_pos_right (by exact_mod_cast hX) hPq))
    have hlo : (1 : ℚ) / P ≤ (X % P : ℕ) / (P : ℚ) := div_le_div_of_nonneg_right (by exact_mod_cast h0) hPq.le
    have hhi : ((X % P : ℕ) : ℚ) / P + 1 / P ≤ 1 := by
      rw [← add_div, div_le_one hPq]
      exact_mod_cast Nat.mod_lt X hP
    rw [hq] at herr ⊢
    -- `linarith` is slow on the casts and quotients
    generalize ((X / P : ℕ) : ℚ) = n at herr ⊢
    generalize ((X % P : ℕ) : ℚ) / P = f at herr hlo hhi ⊢
    generalize (1 : ℚ) / P = ε at herr hlo hhi
    generalize rn (n + f) = R at herr ⊢
    exact ⟨h0.ne', by linarith only [herr.1, hlo], by linarith only [herr.2, hhi]⟩

theorem floor_rn_div {rn : ℚ → ℚ} (h : RN53 rn) (X P : ℕ) (hX : X < 2 ^ 53) (hP : 1 ≤ P) :
    ⌊rn ((X : ℚ) / (P : ℚ))⌋ = ((X / P : ℕ) : ℤ) := by
  rcases rn_div_cases h hX hP with ⟨_, e⟩ | ⟨_, h1, h2⟩
  · rw [e]; exact Int.floor_natCast _
  · exact Int.floor_eq_iff.mpr (by rw [Int.cast_natCast]; exact ⟨h1.le, h2⟩)

/-- ceiling division as C programmers write it -/
theorem cdiv_eq (X P : ℕ) (hP : 1 ≤ P) : (X + P - 1) / P = X / P + if X % P = 0 then 0 else 1 := by
  have hr := Nat.mod_lt X hP
  have hX := Nat.div_add_mod X P
  generalize X / P = q, X % P = r at hr hX ⊢
  subst hX
  rw [Nat.add_assoc, Nat.add_sub_assoc (by omega), Nat.mul_add_div hP]
  congr 1
  split
  · exact Nat.div_eq_of_lt (by omega)
  · exact Nat.div_eq_of_lt_le (by omega) (by omega)

theorem cdiv_bounds (X P : ℕ) (hP : 1 ≤ P) : X ≤ P * ((X + P - 1) / P) ∧ P * ((X + P - 1) / P) < X + P := by
  have := Nat.div_add_mod (X + P - 1) P
  have := Nat.mod_lt (X + P - 1) hP
  omega

theorem ceil_rn_div {rn : ℚ → ℚ} (h : RN53 rn) (X P : ℕ) (hX : X < 2 ^ 53) (hP : 1 ≤ P) :
    ⌈rn ((X : ℚ) / (P : ℚ))⌉ = (((X + P - 1) / P : ℕ) : ℤ) := by
  rw [cdiv_eq X P hP]
  rcases rn_div_cases h hX hP with ⟨h0, e⟩ | ⟨h0, h1, h2⟩
  · rw [e, if_pos h0]; exact Int.ceil_natCast _
  · rw [if_neg h0]
    exact Int.ceil_eq_iff.mpr (by rw [Int.cast_natCast, Nat.cast_succ, add_sub_cancel_right]; exact ⟨h1, h2.le⟩)

end FP
