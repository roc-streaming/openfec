import OpenFecVerif.Model.Sym
import OpenFecVerif.Proofs.MatrixWF
/-!
Sums of symbols over a row of a parity-check matrix, in any structure where addition is associative, commutative, has a neutral
element and every element is its own opposite (XOR of byte strings is the executable instance): what the solver, the iterative
decoder and the encoder theorems share.
-/
namespace Gauss
variable {σ : Type}

structure Lawful (O : Ops σ) : Prop where
  add_assoc : ∀ a b c, O.add (O.add a b) c = O.add a (O.add b c)
  add_comm : ∀ a b, O.add a b = O.add b a
  add_zero : ∀ a, O.add a O.zero = a
  add_self : ∀ a, O.add a a = O.zero

theorem Lawful.zero_add {O : Ops σ} (h : Lawful O) (a : σ) : O.add O.zero a = a := by rw [h.add_comm, h.add_zero]

theorem Lawful.add_cancel {O : Ops σ} (h : Lawful O) (a b : σ) : O.add (O.add a b) b = a := by
  rw [h.add_assoc, h.add_self, h.add_zero]

theorem Lawful.add_add_add_comm {O : Ops σ} (h : Lawful O) (a b c d : σ) :
    O.add (O.add a b) (O.add c d) = O.add (O.add a c) (O.add b d) := by
  rw [h.add_assoc, ← h.add_assoc b, h.add_comm b c, h.add_assoc c, ← h.add_assoc a]

theorem Lawful.eq_of_add_eq_zero {O : Ops σ} (h : Lawful O) {a b : σ} (e : O.add a b = O.zero) : a = b := by
  rw [← h.add_cancel a b, e, h.zero_add]

end Gauss

namespace ITSound
open Gauss
variable {σ : Type}

/-- sum of the transmitted values of the listed symbols -/
def S (O : Ops σ) (sent : Nat → σ) (row : List Nat) : σ := row.foldl (fun c e => O.add c (sent e)) O.zero

theorem foldl_add_init {O : Ops σ} (hO : Lawful O) (sent : Nat → σ) (row : List Nat) (c : σ) :
    row.foldl (fun c e => O.add c (sent e)) c = O.add c (S O sent row) := by
  unfold S
  induction row generalizing c with
  | nil => exact (hO.add_zero c).symm
  | cons e t ih =>
    simp only [List.foldl_cons]
    rw [ih (O.add c (sent e)), ih (O.add O.zero (sent e)), hO.zero_add, hO.add_assoc]

theorem S_nil (O : Ops σ) (sent : Nat → σ) : S O sent [] = O.zero := rfl

theorem S_congr (O : Ops σ) {f g : Nat → σ} {row : List Nat} (h : ∀ e ∈ row, f e = g e) : S O f row = S O g row := by
  rw [S, S, ← List.foldl_map (f := f) (g := O.add), ← List.foldl_map (f := g) (g := O.add), List.map_congr_left h]

theorem S_cons {O : Ops σ} (hO : Lawful O) (sent : Nat → σ) (e : Nat) (t : List Nat) :
    S O sent (e :: t) = O.add (sent e) (S O sent t) := by
  show (e :: t).foldl _ O.zero = _
  simp only [List.foldl_cons]
  rw [foldl_add_init hO, hO.zero_add]

theorem S_append {O : Ops σ} (hO : Lawful O) (sent : Nat → σ) (a b : List Nat) :
    S O sent (a ++ b) = O.add (S O sent a) (S O sent b) := by
  show (a ++ b).foldl _ O.zero = _
  rw [List.foldl_append, foldl_add_init hO]
  rfl

theorem S_perm {O : Ops σ} (hO : Lawful O) (sent : Nat → σ) {l₁ l₂ : List Nat} (p : l₁.Perm l₂) : S O sent l₁ = S O sent l₂ := by
  unfold S
  apply List.Perm.foldl_eq' p
  intro x _ y _ z
  rw [hO.add_assoc, hO.add_comm (sent x), ← hO.add_assoc]

theorem S_split {O : Ops σ} (hO : Lawful O) (sent : Nat → σ) (p : Nat → Bool) (row : List Nat) :
    S O sent row = O.add (S O sent (row.filter p)) (S O sent (row.filter fun e => !p e)) := by
  rw [← S_append hO, S_perm hO sent (List.filter_append_perm p row)]

theorem S_remove {O : Ops σ} (hO : Lawful O) (sent : Nat → σ) {row : List Nat} (hnd : row.Nodup) {esi : Nat} (hm : esi ∈ row) :
    S O sent row = O.add (S O sent (row.filter fun e => e != esi)) (sent esi) := by
  have : row.filter (fun e => !(e != esi)) = [esi] := by
    rw [List.filter_congr (q := (· == esi)) fun x _ => by simp [bne], List.filter_beq, hnd.count, if_pos hm]
    rfl
  rw [S_split hO sent (fun e => e != esi) row, this, S_cons hO, S_nil, hO.add_zero]

theorem S_solve_for {O : Ops σ} (hO : Lawful O) (x : Nat → σ) {row : List Nat} (hnd : row.Nodup) {e : Nat} (hm : e ∈ row)
    (h : S O x row = O.zero) : x e = S O x (row.filter fun a => a != e) := by
  rw [S_remove hO x hnd hm] at h
  exact (hO.eq_of_add_eq_zero h).symm

theorem S_eq_zero {O : Ops σ} (hO : Lawful O) (x : Nat → σ) (l : List Nat) (h : ∀ e ∈ l, x e = O.zero) : S O x l = O.zero := by
  induction l with
  | nil => rfl
  | cons a t ih => rw [S_cons hO, h a List.mem_cons_self, ih fun e he => h e (List.mem_cons_of_mem _ he), hO.add_zero]

/-- the loop that folds the already known members of a row into its partial sum.  The step is a variable `g` with its equation, not the
`match` itself: `IT.rowStep` and `MLSound.sysRow` each compile their own matcher, and a caller closes `hg` by `rfl`. -/
theorem fold_known {O : Ops σ} (hO : Lawful O) (sent : Nat → σ) (sym : Nat → Option σ)
    (hs : ∀ e v, sym e = some v → v = sent e) (g : σ → Nat → σ)
    (hg : ∀ c e, g c e = (match sym e with | some x => O.add c x | none => c)) (row : List Nat) (c : σ) :
    row.foldl g c = O.add c (S O sent (row.filter fun e => (sym e).isSome)) := by
  have : g = fun c e => if (sym e).isSome then O.add c (sent e) else c := by
    funext c e
    rw [hg]
    cases h : sym e with
    | none => rfl
    | some x =>
      rw [hs e x h]
      rfl
  rw [this, ← List.foldl_filter, foldl_add_init hO]

/-- **staircase**: equation i determines its own repair symbol from smaller ones, so a word that satisfies every equation and
vanishes on the source symbols vanishes everywhere -/
theorem stair_zero {O : Ops σ} (hO : Lawful O) {k : Nat} {H : List (List Nat)} (hst : LdpcEnc.Stair k H) (z : Nat → σ)
    (hcw : ∀ i, i < H.length → S O z (H.getD i []) = O.zero) (hsrc : ∀ j, j < k → z j = O.zero) :
    ∀ e, e < k + H.length → z e = O.zero := by
  intro e
  induction e using Nat.strongRecOn with
  | _ e ih =>
    intro he
    obtain hek | hek := Nat.lt_or_ge e k
    · exact hsrc e hek
    · obtain ⟨i, rfl⟩ := Nat.exists_eq_add_of_le hek
      have hi : i < H.length := Nat.lt_of_add_lt_add_left he
      rw [S_solve_for hO z (hst.nodup i hi) (hst.own i hi) (hcw i hi)]
      refine S_eq_zero hO z _ fun a ha => ?_
      have := hst.lt_of_mem_filter hi a ha
      exact ih a this (Nat.lt_trans this he)

end ITSound
