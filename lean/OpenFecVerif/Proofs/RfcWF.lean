import OpenFecVerif.Model.Rfc5170
import OpenFecVerif.Proofs.MatrixWF
/-!
# Structure of every matrix the RFC 5170 construction returns, and that it returns one

For any generator `rn`-instance whose outputs are in range (`GoodRand`, which `GoodRand.of_RN53` in Proofs/Rand.lean establishes for
every rounding operator of the binary64 standard model), every matrix `Rfc5170.create` returns — whatever (k, n−k, N1, seed) —
has n−k equations; no equation has a repeated entry; all entries are below n; equation i contains repair symbol k+i and
otherwise only smaller symbols (staircase); no equation has exactly one entry.  These are the hypotheses `WFH`, `wfCheck` and
`stairCheck` (here as the proposition `LdpcEnc.Stair`) of the decoder theorems (C01, C03, C04), which therefore hold for every
accepted LDPC-Staircase configuration.

Each stage of the construction gets one statement, `Ret T Q (stage …)`: the stage can only return something that satisfies `Q`, and
it does return if the rejection loops do (`T`).  The stages compose like the code does (`Ret.bind`, `Ret.foldl`), so that `create_ret`
says at once what a returned matrix is made of — duplicate-free columns of N1 rows, their transposition (`rowsOf_eq`), repaired rows,
the staircase — and that one is returned.  Well-formedness (`Built.wf`), the column weights (`Built.weights`) and termination
(`RfcTotal.create_total`) are read off it; the first two are facts about lists.
-/
namespace RfcWF
open Rfc5170

/-- the generator keeps its state in 1..2^31−2 and returns values below `maxv`; 2^63 is how far the scaled output is known to fit the
64-bit conversion (`RandProofs.scaled_lt`), so every stage assumes its bounds below that -/
def GoodRand (rn : Rat → Rat) : Prop :=
  ∀ s maxv, 1 ≤ s → s ≤ 2147483646 → 1 ≤ maxv → maxv < 2 ^ 63 →
    (Gen.of_rfc5170_rand rn s maxv).2 < maxv ∧ 1 ≤ (Gen.of_rfc5170_rand rn s maxv).1 ∧ (Gen.of_rfc5170_rand rn s maxv).1 ≤ 2147483646

def SeedOk (s : Nat) : Prop := 1 ≤ s ∧ s ≤ 2147483646

/-- a rejection loop over a bound below 2^30 that accepts at least one value returns, within the model's fuel, from every valid state;
2^30 is how far every value is known to be some state's scaled output (`RandProofs.scaled_hit`); only totality needs it, so these
bounds stand in the `T` of `Ret` and not among the hypotheses of a stage -/
def DrawTotal (rn : Rat → Rat) : Prop :=
  ∀ (m : Nat) (accept : Nat → Bool) (v s : Nat), m < 2 ^ 30 → v < m → accept v = true → SeedOk s →
    (drawUntil rn m accept loopFuel s).isSome = true

/-- `o` can only return a value that satisfies `Q`, and it does return if `T` holds: partial correctness and totality of a stage in one
statement, so that one induction over the stage serves both -/
def Ret {α : Type} (T : Prop) (Q : α → Prop) : Option α → Prop
  | some a => Q a
  | none => ¬ T

section Ret
variable {α β : Type} {T T' : Prop} {P Q : α → Prop} {o : Option α}

theorem Ret.post (h : Ret T Q o) {a : α} (e : o = some a) : Q a := by subst e; exact h

theorem Ret.isSome (h : Ret T Q o) (t : T) : o.isSome = true := by
  cases o with
  | none => exact absurd t h
  | some _ => rfl

theorem Ret.imp (hT : T' → T) (hQ : ∀ a, P a → Q a) (h : Ret T P o) : Ret T' Q o := by
  cases o with
  | none => exact fun t => h (hT t)
  | some a => exact hQ a h

theorem Ret.map {Q : β → Prop} {g : α → β} (h : Ret T (fun a => Q (g a)) o) : Ret T Q (o.map g) := by
  cases o <;> exact h

theorem Ret.bind {Q : β → Prop} {f : α → Option β} (h : Ret T P o) (hf : ∀ a, P a → Ret T Q (f a)) : Ret T Q (o.bind f) := by
  cases o with
  | none => exact h
  | some a => exact hf a h

theorem Ret.ite {c : Prop} [Decidable c] {o' : Option α} (h : c → Ret T Q o) (h' : ¬ c → Ret T Q o') :
    Ret T Q (if c then o else o') := by
  split
  · exact h ‹c›
  · exact h' ‹¬ c›

/-- a loop whose body may fail and that gives up then: an invariant of the successful passes, `n` counting them -/
theorem Ret.foldl {σ ι : Type} {P : Nat → σ → Prop} {step : Option σ → ι → Option σ} (hnone : ∀ i, step none i = none)
    (hstep : ∀ n x i, P n x → Ret T (P (n + 1)) (step (some x) i)) :
    ∀ (l : List ι) {n : Nat} {o : Option σ}, Ret T (P n) o → Ret T (P (l.length + n)) (l.foldl step o) := by
  intro l
  induction l with
  | nil => exact fun h => Nat.zero_add _ ▸ h
  | cons i l ih =>
    intro n o h
    rw [List.foldl_cons, List.length_cons, Nat.add_right_comm]
    cases o with
    | none => rw [hnone]; exact ih (n := n + 1) h
    | some x => exact ih (hstep n x i h)

end Ret

variable {rn : Rat → Rat}

theorem GoodRand.seedOk (hg : GoodRand rn) {s maxv : Nat} (hs : SeedOk s) (hm1 : 1 ≤ maxv) (hm : maxv < 2 ^ 63) :
    SeedOk (Gen.of_rfc5170_rand rn s maxv).1 :=
  (hg s maxv hs.1 hs.2 hm1 hm).2

theorem srand_ok {seed : Nat} (hs : SeedOk seed) (g : Nat) : Gen.of_rfc5170_srand g seed = seed :=
  if_pos hs

theorem drawUntil_spec (hg : GoodRand rn) {maxv : Nat} (hm1 : 1 ≤ maxv) (hm : maxv < 2 ^ 63) {accept : Nat → Bool} :
    ∀ {fuel s s' x}, SeedOk s → drawUntil rn maxv accept fuel s = some (s', x) → SeedOk s' ∧ x < maxv ∧ accept x = true := by
  intro fuel
  induction fuel with
  | zero => intro s s' x _ h; cases h
  | succ fuel ih =>
    intro s s' x hs h
    rw [drawUntil] at h
    split at h
    · rename_i hacc
      cases h
      exact ⟨hg.seedOk hs hm1 hm, (hg s maxv hs.1 hs.2 hm1 hm).1, hacc⟩
    · exact ih (hg.seedOk hs hm1 hm) h

/-- every rejection loop of the construction, entered with an acceptable value `v` -/
theorem drawUntil_ret (hg : GoodRand rn) {m : Nat} (hm : m < 2 ^ 63) {acc : Nat → Bool} {v : Nat} (hv : v < m) (hacc : acc v = true)
    {s : Nat} (hs : SeedOk s) :
    Ret (DrawTotal rn ∧ m < 2 ^ 30) (fun p => SeedOk p.1 ∧ p.2 < m ∧ acc p.2 = true) (drawUntil rn m acc loopFuel s) := by
  cases h : drawUntil rn m acc loopFuel s with
  | none => exact fun t => Option.isSome_iff_ne_none.mp (t.1 m acc v s t.2 hv hacc hs) h
  | some p => exact drawUntil_spec hg (by omega) hm hs h

theorem existsFrom_true (p : Nat → Bool) : ∀ cnt lo, existsFrom p lo cnt = true → ∃ j, j < cnt ∧ p (lo + j) = true := by
  intro cnt
  induction cnt with
  | zero => intro lo h; cases h
  | succ c ih =>
    intro lo h
    rw [existsFrom] at h
    split at h
    · exact ⟨0, Nat.succ_pos c, ‹_›⟩
    · obtain ⟨j, h1, h2⟩ := ih (lo + 1) h
      rw [Nat.add_right_comm] at h2
      exact ⟨j + 1, Nat.succ_lt_succ h1, h2⟩

/-- pigeonhole -/
theorem exists_not_mem (r : Nat) (col : List Nat) (h : col.length < r) : ∃ x, x < r ∧ x ∉ col :=
  Classical.byContradiction fun hn => by
    have hsub : List.range r ⊆ col := fun x hx => Classical.not_not.mp fun hx' => hn ⟨x, List.mem_range.mp hx, hx'⟩
    have := List.nodup_range.length_le_of_subset hsub
    rw [List.length_range] at this
    omega

/-- invariant of the column-filling state while the current column has `n` entries -/
structure FillInv (r n : Nat) (f : Fill) : Prop where
  seed_ok : SeedOk f.seed
  col_nodup : f.col.Nodup
  col_lt : ∀ x ∈ f.col, x < r
  col_len : f.col.length = n
  u_lt : ∀ i, f.u.getD i 0 < r

theorem FillInv.newCol {r n : Nat} {f : Fill} (inv : FillInv r n f) : FillInv r 0 { f with col := [] } :=
  ⟨inv.seed_ok, List.nodup_nil, nofun, rfl, inv.u_lt⟩

theorem FillInv.cons {r n : Nat} {f : Fill} (inv : FillInv r n f) {x s' : Nat} (hs : SeedOk s') (hx : x < r)
    (hn : x ∉ f.col) {u : Array Nat} (hu : ∀ i, u.getD i 0 < r) (t un : Nat) :
    FillInv r (n + 1) { seed := s', u := u, t := t, col := x :: f.col, uneven := un } :=
  ⟨hs, List.nodup_cons.mpr ⟨hn, inv.col_nodup⟩, List.forall_mem_cons.mpr ⟨hx, inv.col_lt⟩, congrArg (· + 1) inv.col_len, hu⟩

theorem fillInv0 {r : Nat} (hr : 1 ≤ r) {seed : Nat} (hs : SeedOk seed) (total : Nat) :
    FillInv r 0 { seed := seed, u := Array.ofFn (n := total) fun i => i.val % r, t := 0, col := [], uneven := 0 } := by
  refine ⟨hs, List.nodup_nil, nofun, rfl, fun i => ?_⟩
  simp only [Array.getD_eq_getD_getElem?, Array.getElem?_ofFn]
  split
  · exact Nat.mod_lt _ hr
  · exact hr

/-- **one step of the filling is one rejection loop** that has an acceptable value while the column is not full (a scan of the choice
list found one, or pigeonhole on the column), and whatever it returns goes into the column -/
theorem addOne_ret (hg : GoodRand rn) {r total n : Nat} (hr63 : r < 2 ^ 63) (ht63 : total < 2 ^ 63) {f : Fill} (inv : FillInv r n f)
    (hn : n < r) : Ret (DrawTotal rn ∧ r < 2 ^ 30 ∧ total < 2 ^ 30) (FillInv r (n + 1)) (addOne rn r total f) := by
  unfold addOne
  refine .ite (fun havail => ?_) fun _ => ?_
  · obtain ⟨j, hj, hp⟩ := existsFrom_true _ _ _ havail
    have hd := drawUntil_ret hg (Nat.lt_of_le_of_lt (Nat.sub_le total f.t) ht63)
      (acc := fun x => !(f.col.contains (f.u.getD (f.t + x) 0))) hj hp inv.seed_ok
    generalize drawUntil rn _ _ loopFuel f.seed = o at hd ⊢
    rcases o with _ | ⟨s', x⟩
    · exact fun t => hd ⟨t.1, Nat.lt_of_le_of_lt (Nat.sub_le total f.t) t.2.2⟩
    · refine inv.cons hd.1 (inv.u_lt _) (by simpa using hd.2.2) (fun i => ?_) _ _
      have hu := inv.u_lt
      simp only [Array.getD_eq_getD_getElem?, Array.getElem?_setIfInBounds] at hu ⊢
      split
      · split
        · exact hu f.t
        · exact Nat.lt_of_le_of_lt (Nat.zero_le n) hn
      · exact hu i
  · obtain ⟨v, hv, hvn⟩ := exists_not_mem r f.col (inv.col_len ▸ hn)
    have hd := drawUntil_ret hg hr63 (acc := fun x => !(f.col.contains x)) hv (by simpa using hvn) inv.seed_ok
    generalize drawUntil rn _ _ loopFuel f.seed = o at hd ⊢
    rcases o with _ | ⟨s', x⟩
    · exact fun t => hd ⟨t.1, t.2.1⟩
    · exact inv.cons hd.1 hd.2.1 (by simpa using hd.2.2) inv.u_lt _ _

theorem addN_succ (r total n : Nat) (f : Fill) : addN rn r total (n + 1) f = (addOne rn r total f).bind (addN rn r total n) := by
  rw [addN]; cases addOne rn r total f <;> rfl

theorem addN_ret (hg : GoodRand rn) {r total : Nat} (hr63 : r < 2 ^ 63) (ht63 : total < 2 ^ 63) :
    ∀ (n : Nat) {m : Nat} {f : Fill}, FillInv r m f → n + m ≤ r →
      Ret (DrawTotal rn ∧ r < 2 ^ 30 ∧ total < 2 ^ 30) (FillInv r (n + m)) (addN rn r total n f) := by
  intro n
  induction n with
  | zero => exact fun inv _ => Nat.zero_add _ ▸ inv
  | succ n ih =>
    intro m f inv hle
    rw [addN_succ, Nat.add_right_comm]
    exact (addOne_ret hg hr63 ht63 inv (by omega)).bind fun f1 inv1 => ih inv1 (by omega)

/-- every column: N1 distinct rows -/
def ColsOk (r N1 : Nat) (cols : List (List Nat)) : Prop := ∀ col ∈ cols, col.Nodup ∧ col.length = N1 ∧ ∀ x ∈ col, x < r

theorem fillCols_ret (hg : GoodRand rn) {k r N1 seed : Nat} (hr : 1 ≤ r) (hr63 : r < 2 ^ 63) (ht63 : N1 * k < 2 ^ 63) (hN : N1 ≤ r)
    (hs : SeedOk seed) : Ret (DrawTotal rn ∧ r < 2 ^ 30 ∧ N1 * k < 2 ^ 30)
      (fun p => SeedOk p.1 ∧ p.2.1.length = k ∧ ColsOk r N1 p.2.1) (fillCols rn k r N1 seed) := by
  unfold fillCols
  -- between columns: the state is in order, `n` columns are done
  refine .map (.imp id ?_ (Ret.foldl (P := fun n p => (∃ m, FillInv r m p.1) ∧ p.2.length = n ∧ ColsOk r N1 p.2)
    (fun _ => rfl) ?_ (List.range k) (n := 0) ⟨⟨0, fillInv0 hr hs _⟩, rfl, nofun⟩))
  · rintro ⟨f, cols⟩ ⟨⟨m, inv⟩, hl, hc⟩
    exact ⟨inv.seed_ok, hl.trans List.length_range, hc⟩
  · rintro n ⟨f, cols⟩ _ ⟨⟨m, inv⟩, hl, hc⟩
    have h := addN_ret hg hr63 ht63 N1 inv.newCol hN
    dsimp only
    generalize addN rn r _ N1 _ = o at h ⊢
    cases o with
    | none => exact h
    | some f' =>
      refine ⟨⟨_, h⟩, by simp [hl], List.forall_mem_append.mpr ⟨hc, List.forall_mem_singleton.mpr ?_⟩⟩
      exact ⟨h.col_nodup, h.col_len, h.col_lt⟩

/-- `j` is prepended to the rows listed in `col` -/
theorem modify_foldl (j : Nat) : ∀ (col : List Nat) (a : Array (List Nat)), col.Nodup → ∀ i,
    (col.foldl (fun a i => a.modify i (fun l => j :: l)) a)[i]? = if i ∈ col then a[i]?.map (j :: ·) else a[i]? := by
  intro col
  induction col with
  | nil => intro a _ i; rfl
  | cons c t ih =>
    intro a hnd i
    obtain ⟨hc, ht⟩ := List.nodup_cons.mp hnd
    rw [List.foldl_cons, ih _ ht, Array.getElem?_modify]
    by_cases hic : c = i
    · subst hic; simp [hc]
    · simp [hic, Ne.symm hic]

/-- visiting the columns `js` from the last to the first: row i gets, in the order of `js`, the labels of the columns that contain i -/
theorem transpose_foldr (colOf : Nat → List Nat) (lab : Nat → Nat) (i : Nat) : ∀ (js : List Nat) (a : Array (List Nat)),
    (∀ j ∈ js, (colOf j).Nodup) →
    (js.foldr (fun j a => (colOf j).foldl (fun a i => a.modify i (fun l => lab j :: l)) a) a)[i]? =
      a[i]?.map (((js.filter fun j => (colOf j).contains i).map lab) ++ ·) := by
  intro js
  induction js with
  | nil => intro a _; simp
  | cons j t ih =>
    intro a hnd
    rw [List.foldr_cons, modify_foldl _ _ _ (hnd j List.mem_cons_self), ih a fun j' h => hnd j' (List.mem_cons_of_mem _ h),
      List.filter_cons]
    split <;> simp [*, Function.comp_def]

/-- **the transposition, exactly**: row i is the ascending list of the columns that contain i -/
theorem rowsOf_eq (cols : List (List Nat)) (r : Nat) (hnd : ∀ col ∈ cols, col.Nodup) :
    rowsOf cols r = (List.range r).map fun i => (List.range cols.length).filter fun j => (cols.getD j []).contains i := by
  -- the loop of `rowsOf` is over position t in the reversed list and computes the column number j = n − 1 − t from it
  have hre : cols.reverse.zipIdx = (List.range cols.length).reverse.map fun j => (cols.getD j [], cols.length - 1 - j) := by
    refine List.ext_getElem? fun t => ?_
    by_cases ht : t < cols.length
    · simp [ht, show cols.length - 1 - t < cols.length by omega]
      omega
    · simp [Nat.le_of_not_lt ht]
  refine List.ext_getElem? fun i => ?_
  rw [rowsOf, Array.getElem?_toList, hre, List.foldl_map, List.foldl_reverse]
  refine (transpose_foldr (fun j => cols.getD j []) (fun j => cols.length - 1 - (cols.length - 1 - j)) i _ _ fun j _ => ?_).trans ?_
  · rw [List.getD_eq_getElem?_getD]
    cases h : cols[j]? with
    | none => exact List.nodup_nil
    | some c => exact hnd c (List.mem_of_getElem? h)
  · have hlab : ∀ j ∈ (List.range cols.length).filter (fun j => (cols.getD j []).contains i),
        cols.length - 1 - (cols.length - 1 - j) = j := by
      intro j hj
      have := List.mem_range.mp (List.mem_filter.mp hj).1
      omega
    rw [List.map_congr_left (g := id) hlab, List.map_id, Array.getElem?_replicate, List.getElem?_map]
    by_cases hi : i < r <;> simp [hi]

theorem rowsOf_spec (cols : List (List Nat)) (r : Nat) (hnd : ∀ col ∈ cols, col.Nodup) :
    (rowsOf cols r).length = r ∧ ∀ row ∈ rowsOf cols r, row.Nodup ∧ ∀ e ∈ row, e < cols.length := by
  rw [rowsOf_eq cols r hnd]
  refine ⟨by simp, fun row hrow => ?_⟩
  obtain ⟨i, _, rfl⟩ := List.mem_map.mp hrow
  exact ⟨List.nodup_range.filter _, fun e he => List.mem_range.mp (List.mem_filter.mp he).1⟩

def SrcRowOk (k : Nat) (row : List Nat) : Prop := row.Nodup ∧ (∀ e ∈ row, e < k) ∧ row ≠ []

theorem pair_ok {k j first : Nat} (hj : j < k) (hf : first < k) (hne : j ≠ first) :
    SrcRowOk k (if j < first then [j, first] else [first, j]) := by
  have hmem : ∀ e, e = j ∨ e = first → e < k := fun e he => he.elim (· ▸ hj) (· ▸ hf)
  split
  · exact ⟨by simp [hne], fun e he => hmem e (by simpa using he), by simp⟩
  · exact ⟨by simp [Ne.symm hne], fun e he => hmem e (by simpa [or_comm] using he), by simp⟩

/-- what `fixRows` promises of its result (PRNG state, rows, counter of added entries): proper source rows, and they are the given
ones when the counter has not moved -/
def Repaired (k : Nat) (rows done : List (List Nat)) (added : Nat) (p : Nat × List (List Nat) × Nat) : Prop :=
  p.2.1.length = done.length + rows.length ∧ (∀ row ∈ p.2.1, SrcRowOk k row) ∧ added ≤ p.2.2 ∧ (p.2.2 = added → p.2.1 = done ++ rows)

theorem fixRows_ret (hg : GoodRand rn) {k : Nat} (hk : 1 ≤ k) (hk63 : k < 2 ^ 63) :
    ∀ (rows : List (List Nat)) {seed added : Nat} {done : List (List Nat)},
      SeedOk seed → (∀ row ∈ rows, row.Nodup ∧ ∀ e ∈ row, e < k) → (∀ row ∈ done, SrcRowOk k row) →
      Ret (DrawTotal rn ∧ k < 2 ^ 30) (Repaired k rows done added) (fixRows rn k rows seed added done) := by
  intro rows
  induction rows with
  | nil => intro seed added done _ _ hd; exact ⟨rfl, hd, Nat.le_refl _, fun _ => (List.append_nil _).symm⟩
  | cons row rest ih =>
    intro seed added done hs hr hd
    -- the rest of the list, entered with a proper row in place of `row`, the same one if the counter has not moved
    have hrest : ∀ {s1 a1 : Nat} {row1 : List Nat}, SeedOk s1 → SrcRowOk k row1 → added ≤ a1 → (a1 = added → row1 = row) →
        Ret (DrawTotal rn ∧ k < 2 ^ 30) (Repaired k (row :: rest) done added) (fixRows rn k rest s1 a1 (done ++ [row1])) := by
      intro s1 a1 row1 hs1 hok1 hle hsame
      refine (ih hs1 (fun r' h' => hr r' (List.mem_cons_of_mem _ h'))
        (List.forall_mem_append.mpr ⟨hd, List.forall_mem_singleton.mpr hok1⟩)).imp id ?_
      rintro ⟨s', rows2, a'⟩ ⟨q2, q3, q4, q5⟩
      dsimp only [Repaired] at q2 q4 q5 ⊢
      refine ⟨?_, q3, Nat.le_trans hle q4, fun e => ?_⟩
      · rw [q2, List.length_append, List.length_singleton, List.length_cons, Nat.add_assoc, Nat.add_comm 1]
      · have ha : a1 = added := Nat.le_antisymm (e ▸ q4) hle
        rw [q5 (e.trans ha.symm), hsame ha, List.append_assoc, List.singleton_append]
    rw [fixRows, ← apply_ite some]
    -- an empty row gets one entry
    generalize hp : (if row.isEmpty = true then _ else (seed, row, added)) = p
    have h1 : SeedOk p.1 ∧ SrcRowOk k p.2.1 ∧ added ≤ p.2.2 ∧ (p.2.2 = added → p.2.1 = row) := by
      obtain ⟨hnd, hlt⟩ := hr row List.mem_cons_self
      rw [← hp]
      split
      · exact ⟨hg.seedOk hs hk hk63, ⟨by simp, List.forall_mem_singleton.mpr (hg seed k hs.1 hs.2 hk hk63).1, List.cons_ne_nil _ _⟩,
          Nat.le_succ _, fun e => absurd e (Nat.succ_ne_self _)⟩
      · rename_i hemp
        exact ⟨hs, ⟨hnd, hlt, fun e => hemp (congrArg List.isEmpty e)⟩, Nat.le_refl _, fun _ => rfl⟩
    obtain ⟨seed1, row1, added1⟩ := p
    obtain ⟨hs1, hok1, hle1, hsame1⟩ := h1
    dsimp only at hs1 hok1 hle1 hsame1 ⊢
    -- a lone entry gets a companion; for k > 1, 0 or 1 differs from it
    refine .ite (fun hc => ?_) fun _ => hrest hs1 hok1 hle1 hsame1
    simp only [Bool.and_eq_true, decide_eq_true_eq] at hc
    have hf : row1.headD 0 < k := by
      cases row1 with
      | nil => exact absurd rfl hok1.2.2
      | cons a t => exact hok1.2.1 a List.mem_cons_self
    generalize row1.headD 0 = first at hf ⊢
    obtain ⟨v, hv, hvf⟩ : ∃ v, v < k ∧ v ≠ first :=
      if h0 : first = 0 then ⟨1, hc.2, h0 ▸ Nat.one_ne_zero⟩ else ⟨0, hk, Ne.symm h0⟩
    have hd2 := drawUntil_ret hg hk63 (acc := fun x => x != first) hv (bne_iff_ne.mpr hvf) hs1
    generalize drawUntil rn k _ loopFuel seed1 = o at hd2 ⊢
    rcases o with _ | ⟨seed2, j⟩
    · exact hd2
    · exact hrest hd2.1 (pair_ok hd2.2.1 hf (bne_iff_ne.mp hd2.2.2)) (Nat.le_succ_of_le hle1)
        fun e => absurd (e ▸ hle1 : added1 + 1 ≤ added1) (Nat.not_succ_le_self added1)

/-- the repair entries of equation i -/
def stair (k i : Nat) : List Nat := if i = 0 then [k] else [k + i - 1, k + i]

/-- equation i: its source entries, then the staircase -/
def mkRow (k i : Nat) (src : List Nat) : List Nat := src ++ stair k i

theorem mem_stair {k i e : Nat} : e ∈ stair k i ↔ e = k + i ∨ (0 < i ∧ e + 1 = k + i) := by
  cases i with
  | zero => simp [stair]
  | succ i => simp [stair, or_comm, ← Nat.add_assoc]

theorem stair_nodup (k i : Nat) : (stair k i).Nodup := by
  cases i <;> simp [stair]

theorem mkRow_ok (k i : Nat) (src : List Nat) (hsrc : SrcRowOk k src) :
    (mkRow k i src).Nodup ∧ (mkRow k i src).length ≠ 1 ∧ k + i ∈ mkRow k i src ∧ ∀ e ∈ mkRow k i src, e ≤ k + i := by
  obtain ⟨h1, h2, h3⟩ := hsrc
  have hst : ∀ e ∈ stair k i, k ≤ e ∧ e ≤ k + i := fun e he => by have := mem_stair.mp he; omega
  have hki : k + i ∈ stair k i := mem_stair.mpr (Or.inl rfl)
  refine ⟨List.nodup_append.mpr ⟨h1, stair_nodup k i, fun a ha b hb => ?_⟩, ?_, List.mem_append_right _ hki, fun e he => ?_⟩
  · have := h2 a ha
    have := hst b hb
    omega
  · have := List.length_pos_of_mem hki
    have := List.length_pos_iff.mpr h3
    simp only [mkRow, List.length_append]
    omega
  · rcases List.mem_append.mp he with h | h
    · exact Nat.le_of_lt (Nat.lt_of_lt_of_le (h2 e h) (Nat.le_add_right k i))
    · exact (hst e h).2

theorem getD_map_range {α : Type} (f : Nat → α) (d : α) (r i : Nat) (hi : i < r) : ((List.range r).map f).getD i d = f i := by
  simp [List.getD_eq_getElem?_getD, hi]

/-- a valid seed overwrites the global PRNG state before it is read: the construction does not depend on it -/
theorem create_indep {seed : Nat} (hs : SeedOk seed) {N1 r : Nat} (h : N1 ≤ r) (g g' k : Nat) :
    create rn g k r N1 seed = create rn g' k r N1 seed := by
  unfold create
  rw [if_neg (Nat.not_lt.mpr h), if_neg (Nat.not_lt.mpr h), srand_ok hs g, srand_ok hs g']

/-- the stages of `create`, with the PRNG states it hands on left out -/
theorem create_snd (g k r N1 seed : Nat) : (create rn g k r N1 seed).2 = if N1 > r then none else
    (fillCols rn k r N1 (Gen.of_rfc5170_srand g seed)).bind fun c => (fixRows rn k (rowsOf c.2.1 r) c.1 0 []).map fun x =>
      { rows := (List.range r).map fun i => mkRow k i (x.2.1.getD i []), extra := decide (x.2.2 ≥ 1), uneven := c.2.2 } := by
  unfold create
  split
  · rfl
  · dsimp only
    rcases fillCols rn k r N1 _ with _ | ⟨s1, cols, uneven⟩
    · rfl
    · dsimp only [Option.bind_some]
      cases fixRows rn k (rowsOf cols r) s1 0 [] <;> rfl

/-- what a returned matrix is made of: `cols` the source columns, `src i` the source entries of equation i -/
def Built (k r N1 : Nat) (M : Matrix) : Prop :=
  ∃ (cols : List (List Nat)) (src : Nat → List Nat), cols.length = k ∧ ColsOk r N1 cols ∧ (∀ i, i < r → SrcRowOk k (src i)) ∧
    (M.extra = false → ∀ i, i < r → src i = (List.range k).filter fun j => (cols.getD j []).contains i) ∧
    M.rows = (List.range r).map fun i => mkRow k i (src i)

theorem create_ret (hg : GoodRand rn) {k r N1 seed : Nat} (hk : 1 ≤ k) (hr : 1 ≤ r) (hk63 : k < 2 ^ 63) (hr63 : r < 2 ^ 63)
    (ht63 : N1 * k < 2 ^ 63) (hseed : SeedOk seed) (g : Nat) :
    Ret (DrawTotal rn ∧ N1 ≤ r ∧ k < 2 ^ 30 ∧ r < 2 ^ 30 ∧ N1 * k < 2 ^ 30) (Built k r N1) (create rn g k r N1 seed).2 := by
  rw [create_snd, srand_ok hseed]
  refine .ite (fun hN t => absurd t.2.1 (Nat.not_le.mpr hN)) fun hN => ?_
  refine ((fillCols_ret hg hr hr63 ht63 (Nat.not_lt.mp hN) hseed).imp (fun t => ⟨t.1, t.2.2.2⟩) fun _ h => h).bind ?_
  rintro ⟨s1, cols, uneven⟩ ⟨hs1, hclen, hcols⟩
  have hnd : ∀ col ∈ cols, col.Nodup := fun col hc => (hcols col hc).1
  obtain ⟨hrl, hsrc⟩ := rowsOf_spec cols r hnd
  refine .map ((fixRows_ret hg hk hk63 _ (done := []) hs1 (hclen ▸ hsrc) nofun).imp (fun t => ⟨t.1, t.2.2.1⟩) ?_)
  rintro ⟨s2, rows2, added⟩ ⟨hlen, hok, _, hsame⟩
  dsimp only at hclen hlen hok hsame ⊢
  rw [hrl, List.length_nil, Nat.zero_add] at hlen
  refine ⟨cols, fun i => rows2.getD i [], hclen, hcols, fun i hi => (List.forall_getD_nil_iff rows2).mpr hok i (hlen ▸ hi),
    fun hex i hi => ?_, rfl⟩
  dsimp only
  rw [hsame (by simpa using hex), List.nil_append, rowsOf_eq cols r hnd, getD_map_range _ _ r i hi, hclen]

theorem create_built (hg : GoodRand rn) {g k r N1 seed : Nat} (hk : 1 ≤ k) (hr : 1 ≤ r) (hk63 : k < 2 ^ 63) (hr63 : r < 2 ^ 63)
    (ht63 : N1 * k < 2 ^ 63) (hseed : SeedOk seed) {g' : Nat} {M : Matrix} (h : create rn g k r N1 seed = (g', some M)) :
    Built k r N1 M :=
  (create_ret hg hk hr hk63 hr63 ht63 hseed g).post (congrArg Prod.snd h)

/-- **Every matrix returned by the RFC 5170 construction is well formed and has the staircase shape.** -/
theorem Built.wf {k r N1 : Nat} {M : Matrix} (h : Built k r N1 M) :
    M.rows.length = r ∧ (∀ row ∈ M.rows, row.Nodup ∧ (∀ e ∈ row, e < k + r) ∧ row.length ≠ 1) ∧ LdpcEnc.Stair k M.rows := by
  obtain ⟨_, src, _, _, hok, _, hrows⟩ := h
  have hrow : ∀ i, i < r → _ := fun i hi => mkRow_ok k i _ (hok i hi)
  have hlen : M.rows.length = r := by rw [hrows, List.length_map, List.length_range]
  have hget : ∀ i, i < M.rows.length → M.rows.getD i [] = mkRow k i (src i) := fun i hi => by
    rw [hrows, getD_map_range _ _ r i (hlen ▸ hi)]
  refine ⟨hlen, fun row hrow' => ?_, ⟨fun i hi => ?_, fun i hi => ?_, fun i hi e he hne => ?_⟩⟩
  · rw [hrows] at hrow'
    obtain ⟨i, hi, rfl⟩ := List.mem_map.mp hrow'
    have hi := List.mem_range.mp hi
    obtain ⟨q1, q2, _, q4⟩ := hrow i hi
    exact ⟨q1, fun e he => Nat.lt_of_le_of_lt (q4 e he) (Nat.add_lt_add_left hi k), q2⟩
  · rw [hget i hi]
    exact (hrow i (hlen ▸ hi)).1
  · rw [hget i hi]
    exact (hrow i (hlen ▸ hi)).2.2.1
  · rw [hget i hi] at he
    exact Nat.lt_of_le_of_ne ((hrow i (hlen ▸ hi)).2.2.2 e he) hne

end RfcWF

/-!
### Column weights of the RFC 5170 matrix: why the "last repair symbol is null" flag is truthful for every configuration

When no extra entry was added, every source column of the matrix has exactly N1 entries (the degree-list filling puts N1
distinct rows in each column and nothing else touches source columns), repair column k+i has the two staircase entries
(rows i and i+1) except the last one, which has one.  Hence for even N1 every symbol but the last lies in an even number of
equations and the last in exactly one: the hypothesis `lastNullCheck` of `C15_truthful` holds for every matrix for which the
flag is reported.
-/
namespace RfcWeights
open Rfc5170 RfcWF

/-- **Column weights of every matrix returned without extra entries**: each source column has N1 entries, each repair column two,
except the last which has one -/
theorem _root_.RfcWF.Built.weights {k r N1 : Nat} {M : Matrix} (h : Built k r N1 M) (hex : M.extra = false) :
    (∀ j, j < k → Parity.colWeight M.rows j = N1) ∧
    (∀ t, t < r → Parity.colWeight M.rows (k + t) = if t + 1 < r then 2 else 1) := by
  obtain ⟨cols, src, hclen, hcols, _, hsame, hrows⟩ := h
  rw [hrows]
  -- no entry was added, so the source part of the equations is the transposition of the columns
  have hmem : ∀ i, i < r → ∀ e, e ∈ mkRow k i (src i) ↔ (e < k ∧ i ∈ cols.getD e []) ∨ e = k + i ∨ (0 < i ∧ e + 1 = k + i) := by
    intro i hi e
    rw [mkRow, List.mem_append, mem_stair, hsame hex i hi, List.mem_filter, List.mem_range, List.contains_iff_mem]
  constructor
  · intro j hj
    obtain ⟨c1, c2, c3⟩ := (List.forall_getD_nil_iff cols).mpr hcols j (hclen ▸ hj)
    rw [← c2]
    refine Parity.colWeight_eq_length r _ j _ c1 c3 fun i hi => ?_
    rw [hmem i hi]
    constructor
    · rintro (hm | hm)
      · exact hm.2
      · omega
    · exact fun hm => Or.inl ⟨hj, hm⟩
  · intro t ht
    have hrow : ∀ i, i < r → (k + t ∈ mkRow k i (src i) ↔ i = t ∨ i = t + 1) := fun i hi => by rw [hmem i hi]; omega
    split
    · refine Parity.colWeight_eq_length r _ (k + t) [t, t + 1] (by simp) (fun x hx => by simp at hx; omega) fun i hi => ?_
      rw [hrow i hi]
      simp
    · refine Parity.colWeight_eq_length r _ (k + t) [t] (by simp) (fun x hx => by simp at hx; omega) fun i hi => ?_
      rw [hrow i hi]
      simp
      omega

end RfcWeights
