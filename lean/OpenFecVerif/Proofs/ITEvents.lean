import OpenFecVerif.Proofs.ITAbs
import OpenFecVerif.Proofs.ITInd
/-!
# Which symbols the iterative decoder reports as decoded

`IT.St.decoded` is the list of symbols rebuilt by the decoder (most recent first); the session model turns the part added by one
`of_decode_with_new_symbol` call into that call's callback events.  `Ev n s s' sub`: going from `s` to `s'` with submitted
symbol `sub`, the list grows at the front by a duplicate-free list `new`; every member of `new` was unknown before, is known
after and is not the submitted symbol; every symbol that became known is the submitted one or a member of `new`; nothing is
forgotten.  Proved for `decode` and `drain` with the start state held fixed, as an invariant of the decoder's moves
(`IT.decode_drain_hoare`) that speaks of the known symbols and the list only (`Grown`); the fuel is shown sufficient by counting
unknown symbols.
-/
namespace ITEvents
open IT

variable {σ : Type}

def cnt (n : Nat) (known : Nat → Bool) : Nat := ((List.range n).filter (fun e => !known e)).length

theorem cnt_mono (n : Nat) (k1 k2 : Nat → Bool) (h : ∀ e, k1 e = true → k2 e = true) : cnt n k2 ≤ cnt n k1 :=
  ITAbs.cnt_mono n k1 k2 h

theorem cnt_mark (n : Nat) (k1 k2 : Nat → Bool) (esi : Nat) (hk : k1 esi = false) (hn : esi < n)
    (h2 : ∀ e, k2 e = (if e = esi then true else k1 e)) : cnt n k2 + 1 = cnt n k1 :=
  (funext h2 : k2 = ITAbs.markK k1 esi) ▸ ITAbs.cnt_mark n k1 esi hk hn

def RowsLt (n : Nat) (s : IT.St σ) : Prop := ∀ r, ∀ e ∈ s.rows.get r, e < n

/-- step 2 only removes entries from an equation -/
theorem rowStep_subset (O : Ops σ) (sym : Nat → Option σ) (esi : Nat) (v : σ) (row : List Nat) (ct : Option σ) (nbu : Nat) :
    (IT.rowStep O sym esi v row ct nbu).1 ⊆ row := by
  unfold IT.rowStep
  split
  · dsimp only
    split
    · exact (List.filter_sublist.trans List.filter_sublist).subset
    · exact List.Subset.refl _
  · exact List.Subset.refl _

theorem RowsLt.set_row {n : Nat} {s t : IT.St σ} (h : RowsLt n s) {r : Nat} {row : List Nat} (hsub : row ⊆ s.rows.get r)
    (ht : t.rows = s.rows.set r row) : RowsLt n t := by
  intro x e he
  rw [ht, TMap.get_set] at he
  split at he
  · exact h r e (hsub he)
  · exact h x e he

structure Ev (n : Nat) (s s' : IT.St σ) (sub : Option Nat) : Prop where
  rows_lt : RowsLt n s'
  mono : ∀ e, s.known e = true → s'.known e = true
  ex : ∃ new : List Nat, s'.decoded = new ++ s.decoded ∧ new.Nodup ∧
    (∀ e ∈ new, s.known e = false ∧ s'.known e = true ∧ some e ≠ sub) ∧
    (∀ e, s'.known e = true → s.known e = true ∨ some e = sub ∨ e ∈ new)

def PA (O : Ops σ) (n fuel : Nat) : Prop :=
  ∀ (s : IT.St σ) esi v, RowsLt n s → esi < n → cnt n s.known ≤ fuel →
    Ev n s (IT.decode O fuel s esi v) (some esi) ∧ (s.known esi = false → (IT.decode O fuel s esi v).known esi = true)
def PB (O : Ops σ) (n fuel : Nat) : Prop :=
  ∀ l (s : IT.St σ), RowsLt n s → cnt n s.known ≤ fuel → Ev n s (IT.drain O fuel s l) none

open ITAbs (markK)

/-- `Ev` with the start state `s0` and the submitted symbol `sub` held fixed while the recursion runs, as a statement about the two
components it concerns: the known symbols are those of `s0`, the submitted one and the members of `new`, without overlap.  Every
move leaves it alone or puts one symbol in front of `new`, so no two lists of events are ever joined. -/
def Grown (s0 : IT.St σ) (sub : Option Nat) (known : Nat → Bool) (decoded : List Nat) : Prop :=
  ∃ new : List Nat, decoded = new ++ s0.decoded ∧ new.Nodup ∧
    (∀ e, known e = true ↔ s0.known e = true ∨ some e = sub ∨ e ∈ new) ∧ ∀ e ∈ new, s0.known e = false ∧ some e ≠ sub

theorem Grown.ev {n : Nat} {s0 s : IT.St σ} {sub : Option Nat} (hr : RowsLt n s) : Grown s0 sub s.known s.decoded → Ev n s0 s sub
  | ⟨new, d, nd, k, a⟩ => ⟨hr, fun e h => (k e).2 (.inl h), new, d, nd,
      fun e he => ⟨(a e he).1, (k e).2 (.inr (.inr he)), (a e he).2⟩, fun e => (k e).1⟩

theorem Grown.known_sub {s0 : IT.St σ} {x : Nat} {known : Nat → Bool} {decoded : List Nat} :
    Grown s0 (some x) known decoded → known x = true
  | ⟨_, _, _, k, _⟩ => (k x).2 (.inr (.inl rfl))

theorem Grown.start (s : IT.St σ) (sub : Option Nat) (known : Nat → Bool)
    (k : ∀ e, known e = true ↔ s.known e = true ∨ some e = sub) : Grown s sub known s.decoded :=
  ⟨[], rfl, List.nodup_nil, fun e => by simp [k], nofun⟩

/-- the one real step: an equation with one entry left yields that entry, which is noted and stored -/
theorem Grown.peel {s0 : IT.St σ} {sub : Option Nat} {known : Nat → Bool} {decoded : List Nat} {e : Nat}
    (h : Grown s0 sub known decoded) (hk : known e = false) : Grown s0 sub (markK known e) (e :: decoded) := by
  obtain ⟨new, rfl, nd, k, a⟩ := h
  -- being unknown, `e` is none of the three kinds of known symbol
  obtain ⟨h1, h2, h3⟩ : s0.known e = false ∧ some e ≠ sub ∧ e ∉ new := by simpa [hk] using not_congr (k e)
  refine ⟨e :: new, rfl, List.nodup_cons.2 ⟨h3, nd⟩, fun x => ?_, List.forall_mem_cons.2 ⟨⟨h1, h2⟩, a⟩⟩
  unfold markK
  split <;> simp [*]

theorem markK_of_known {known : Nat → Bool} {esi : Nat} (h : known esi = true) : markK known esi = known :=
  funext fun x => by unfold markK; split <;> simp [*]

/-- what holds between the decoder's moves in a call that started from `s0` and submitted `sub` -/
def Inv (n : Nat) (s0 : IT.St σ) (sub : Option Nat) (f : Nat) (s : IT.St σ) : Prop :=
  RowsLt n s ∧ cnt n s.known ≤ f ∧ Grown s0 sub s.known s.decoded

/-- A nested call may assume `Grown` of the state with its symbol already stored.  The fuel never runs out because each store
lowers the number of unknown symbols below `n`, which the fuel bounds. -/
theorem inv_decode_drain (O : Ops σ) (n : Nat) (s0 : IT.St σ) (sub : Option Nat) :
    (∀ f s esi v, (esi < n ∧ RowsLt n s ∧ cnt n s.known ≤ f ∧ Grown s0 sub (markK s.known esi) s.decoded) →
      Inv n s0 sub f (decode O f s esi v)) ∧
    ∀ f s l, Inv n s0 sub f s → Inv n s0 sub f (drain O f s l) := by
  refine decode_drain_hoare O ?_ ?_ ?_ ?_ fun f s h => ⟨h.1, Nat.le_succ_of_le h.2.1, h.2.2⟩
  · rintro f s esi v ⟨hn, hr, hc, g⟩ h0
    cases hk : s.known esi with
    | true => exact ⟨hr, hc, markK_of_known hk ▸ g⟩
    | false =>
      obtain rfl := h0.resolve_right (by simp [hk])
      have := cnt_mark n s.known _ esi hk hn fun _ => rfl
      omega
  · rintro f s esi v ⟨hn, hr, hc, g⟩ hk
    have := cnt_mark n s.known _ esi hk hn (congrFun (known_store s esi v))
    exact ⟨hr, by omega, known_store s esi v ▸ g⟩
  · rintro f s esi v r ⟨hr, hc, g⟩ _
    exact ⟨hr.set_row (rowStep_subset O _ esi v _ _ _) rfl, hc, g⟩
  · rintro f s r e ⟨hr, hc, g⟩ hrow
    have hr' : RowsLt n (s.consume r) := hr.set_row (List.nil_subset _) rfl
    refine ⟨hr r e (by simp [hrow]), ?_⟩
    cases hk : (s.consume r).known e with
    | true => exact ⟨hr', hc, (markK_of_known hk).symm ▸ g⟩
    | false => exact ⟨hr', hc, g.peel hk⟩

theorem PA_all (O : Ops σ) (n : Nat) : ∀ fuel, PA O n fuel := fun fuel s esi v hr hn hc => by
  obtain ⟨hr', -, g⟩ := (inv_decode_drain O n s (some esi)).1 fuel s esi v
    ⟨hn, hr, hc, .start s _ _ fun e => by unfold markK; split <;> simp [*]⟩
  exact ⟨g.ev hr', fun _ => g.known_sub⟩

-- `PB_of_PA`, `PA_zero`, `PA_succ` have the shape of the steps of a mutual induction on the fuel; `inv_decode_drain` gives them directly
theorem PB_of_PA (O : Ops σ) (n fuel : Nat) (hA : PA O n fuel) : PB O n fuel := fun l s hr hc =>
  have ⟨hr', _, g⟩ := (inv_decode_drain O n s none).2 fuel s l ⟨hr, hc, .start s _ _ fun e => by simp⟩
  g.ev hr'

theorem PA_zero (O : Ops σ) (n : Nat) : PA O n 0 := PA_all O n 0

theorem PA_succ (O : Ops σ) (n fuel : Nat) (hB : PB O n fuel) : PA O n (fuel+1) := PA_all O n (fuel + 1)

end ITEvents
