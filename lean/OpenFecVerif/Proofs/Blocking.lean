import OpenFecVerif.Proofs.FP
import OpenFecVerif.Gen.Blocking
/-!
Proofs about the *generated* translation of `applis/eperftool/blocking_struct.c`: under the binary64 standard model the four outputs of
`of_compute_blocking_struct` are the integers RFC 5052 prescribes.

The three that are a ceiling or floor of a rounded quotient of 32-bit integers are exact by `FP.ceil_rn_div`/`FP.floor_rn_div`.
The last, I = T mod N, is computed as `A = rn(T/N)`, `A_fraction = rn(A − ⌊A⌋)`, `I = closest_int(rn(A_fraction · N))`.  Every rounding
has relative error ≤ 2^-53 and T, N < 2^32, so the computed product is within 2^-19 of the integer T − ⌊T/N⌋·N (`FP.rn_chain`), and the
closest-integer routine (which compares two rounded differences, one ≤ 1/4·(1+2^-53), the other ≥ 3/4·(1−2^-53)) returns it.
-/
open Gen
namespace BlockingProofs

theorem f2i32_nat (n : ℕ) (hlt : n < 2 ^ 31) : CSem.f2i32 (((n : ℕ) : ℤ) : ℚ) = (n : ℤ) := by
  unfold CSem.f2i32
  rw [FP.truncZ_int]
  exact if_pos ⟨by omega, by omega⟩

/-- ceiling division on naturals -/
def cdiv (a b : ℕ) : ℕ := (a + b - 1) / b

theorem cdiv_le_iff {a b c : ℕ} (hb : 1 ≤ b) : cdiv a b ≤ c ↔ a ≤ c * b := by
  rw [cdiv, ← Nat.lt_succ_iff, Nat.div_lt_iff_lt_mul hb, Nat.succ_mul]
  omega

theorem cdiv_le (a b : ℕ) (hb : 1 ≤ b) : cdiv a b ≤ a :=
  (cdiv_le_iff hb).2 (Nat.le_mul_of_pos_right a hb)

theorem cdiv_pos (a b : ℕ) (ha : 1 ≤ a) (hb : 1 ≤ b) : 1 ≤ cdiv a b := by
  unfold cdiv
  exact (Nat.le_div_iff_mul_le hb).2 (by omega)

/-- `(UINT32) ceil((double) a / (double) b)` is ⌈a/b⌉ for 32-bit operands -/
theorem f2u_ceil_div {rn : ℚ → ℚ} (h : RN53 rn) {a b : ℕ} (ha : a < 2 ^ 32) (hb1 : 1 ≤ b) (hb : b < 2 ^ 32) :
    CSem.f2u 32 ((Rat.ceil (rn (rn ((a : ℕ) : ℚ) / rn ((b : ℕ) : ℚ))) : ℤ) : ℚ) = cdiv a b := by
  rw [FP.rn_nat h a (by omega), FP.rn_nat h b (by omega), FP.ceil_eq, FP.ceil_rn_div h a b (by omega) hb1]
  exact FP.f2u_nat 32 _ ((cdiv_le a b hb1).trans_lt ha)

theorem f2u_floor_div {rn : ℚ → ℚ} (h : RN53 rn) {a b : ℕ} (ha : a < 2 ^ 32) (hb1 : 1 ≤ b) (hb : b < 2 ^ 32) :
    CSem.f2u 32 ((Rat.floor (rn (rn ((a : ℕ) : ℚ) / rn ((b : ℕ) : ℚ))) : ℤ) : ℚ) = a / b := by
  rw [FP.rn_nat h a (by omega), FP.rn_nat h b (by omega), FP.floor_eq, FP.floor_rn_div h a b (by omega) hb1]
  exact FP.f2u_nat 32 _ ((Nat.div_le_self a b).trans_lt ha)

theorem small_rn {rn : ℚ → ℚ} (h : RN53 rn) (x : ℚ) (hx : |x| ≤ 1 / 4) : |rn x| < 1 / 2 := by
  linarith [abs_sub_abs_le_abs_sub (rn x) x, h.relerr x]

theorem large_rn {rn : ℚ → ℚ} (h : RN53 rn) (x : ℚ) (hx : 3 / 4 ≤ |x|) : 1 / 2 < |rn x| := by
  linarith [abs_sub_abs_le_abs_sub x (rn x), abs_sub_comm x (rn x), h.relerr x]

theorem closest_int_spec (rn : ℚ → ℚ) (h : RN53 rn) (v : ℚ) (r : ℕ) (hr : r < 2 ^ 32) (hv : |v - (r : ℚ)| ≤ 1 / 4) :
    double_to_closest_int rn v = r := by
  have hnear : |rn (v - ((r : ℤ) : ℚ))| < 1 / 2 := small_rn h _ hv
  -- every other integer is at least 3/4 away from v
  have hfar (z : ℤ) (hz : z ≠ r) : 1 / 2 < |rn (v - (z : ℚ))| := large_rn h _ (by
    have : (1 : ℚ) ≤ |(r : ℚ) - z| := by exact_mod_cast Int.one_le_abs (sub_ne_zero.mpr hz.symm)
    linarith only [this, hv, abs_sub_le (r : ℚ) v z, abs_sub_comm (r : ℚ) v])
  -- and v is less than 1 away from r, which is therefore its ceiling or its floor
  obtain ⟨h1, h2⟩ := abs_sub_lt_iff.mp (hv.trans_lt (by norm_num : (1 / 4 : ℚ) < 1))
  have hcf : ⌈v⌉ = (r : ℤ) ∨ ⌊v⌋ = (r : ℤ) := (le_total v r).imp
    (fun hle => Int.ceil_eq_iff.mpr ⟨by exact_mod_cast sub_lt_comm.mp h2, by exact_mod_cast hle⟩)
    (fun hge => Int.floor_eq_iff.mpr ⟨by exact_mod_cast hge, by exact_mod_cast sub_lt_iff_lt_add'.mp h1⟩)
  unfold double_to_closest_int
  simp only [FP.rabs_eq, FP.ceil_eq, FP.floor_eq]
  by_cases hc : ⌈v⌉ = (r : ℤ)
  · rw [hc]
    split
    · exact FP.f2u_nat 32 r hr
    · by_cases hf : ⌊v⌋ = (r : ℤ)
      · rw [hf]; exact FP.f2u_nat 32 r hr
      · exact absurd (hnear.trans (hfar _ hf)) ‹_›
  · rw [hcf.resolve_left hc, if_neg (not_lt.mpr (hnear.trans (hfar _ hc)).le)]
    exact FP.f2u_nat 32 r hr

/-- the product `rn(rn(A − ⌊T/N⌋) · N)` with `A = rn(T/N)` is within 1/4 (in fact 2^-19) of T mod N -/
theorem frac_times_N (rn : ℚ → ℚ) (h : RN53 rn) (T N : ℕ) (hN1 : 1 ≤ N) (hT : T < 2 ^ 32) :
    |rn (rn (rn ((T : ℚ) / (N : ℚ)) - ((T / N : ℕ) : ℚ)) * (N : ℚ)) - ((T % N : ℕ) : ℚ)| ≤ 1 / 4 := by
  have hN : (N : ℚ) ≠ 0 := Nat.cast_ne_zero.mpr (Nat.pos_iff_ne_zero.mp hN1)
  have hle {n : ℕ} (hn : n ≤ T) : |(n : ℚ)| ≤ 2 ^ 32 := by
    rw [Nat.abs_cast]; exact_mod_cast hn.trans hT.le
  -- the exact arguments are T/N, (T mod N)/N and T mod N; carried through the multiplication by N they are T, T mod N, T mod N
  refine (FP.rn_chain h (x₁ := T / N) (y₂ := rn (T / N) - (T / N : ℕ)) (x₂ := (T % N : ℕ) / N) (c₂ := 1) (c₃ := N) (B := 2 ^ 32)
    ?_ ?_ ?_ ?_ (hle (Nat.mod_le T N))).trans (by norm_num)
  · rw [FP.div_eq_div_add_mod T N hN1]; ring
  · rw [sub_mul, div_mul_cancel₀ _ hN]
  · rw [mul_one, div_mul_cancel₀ _ hN]; exact hle le_rfl
  · rw [div_mul_cancel₀ _ hN]; exact hle (Nat.mod_le T N)

/-- **all four outputs of `of_compute_blocking_struct`** under the binary64 standard model:
N = ⌈T/B⌉ with T = ⌈L/E⌉, A_large = ⌈T/N⌉, A_small = ⌊T/N⌋, I = T mod N -/
theorem blocking_eq (rn : ℚ → ℚ) (h : RN53 rn) (B L E i0 i1 i2 i3 : ℕ)
    (hB : 1 ≤ B) (hE : 1 ≤ E) (hL1 : 1 ≤ L) (hL : L < 2 ^ 32) (hBlt : B < 2 ^ 32) (hElt : E < 2 ^ 32) :
    of_compute_blocking_struct rn i0 i1 i2 i3 B L E =
      (cdiv (cdiv L E) B, cdiv (cdiv L E) (cdiv (cdiv L E) B), cdiv L E / cdiv (cdiv L E) B, cdiv L E % cdiv (cdiv L E) B) := by
  have hT32 : cdiv L E < 2 ^ 32 := (cdiv_le L E hE).trans_lt hL
  have hT1 := cdiv_pos L E hL1 hE
  unfold of_compute_blocking_struct
  simp only [f2u_ceil_div h hL hE hElt]
  generalize cdiv L E = T at hT32 hT1 ⊢
  have hNT : cdiv T B ≤ T := cdiv_le T B hB
  have hN1 := cdiv_pos T B hT1 hB
  simp only [f2u_ceil_div h hT32 hB hBlt]
  generalize cdiv T B = N at hNT hN1 ⊢
  have hN32 : N < 2 ^ 32 := hNT.trans_lt hT32
  simp only [f2u_ceil_div h hT32 hN1 hN32, f2u_floor_div h hT32 hN1 hN32, Prod.mk.injEq, true_and]
  rw [FP.rn_nat h T (by omega), FP.rn_nat h N (by omega), FP.rn_nat h (T / N) (by have := Nat.div_le_self T N; omega)]
  exact closest_int_spec rn h _ (T % N) (by have := Nat.mod_lt T (by omega : 0 < N); omega) (frac_times_N rn h T N hN1 hT32)

end BlockingProofs
