/-! small list lemmas shared by several proof files (core only) -/
namespace ListHelper

theorem ite_iff {α : Sort _} {c d : Prop} [Decidable c] [Decidable d] (h : c ↔ d) (a b : α) :
    (if c then a else b) = if d then a else b :=
  ite_congr (propext h) (fun _ => rfl) (fun _ => rfl)

/-- the loop rule for a counting loop: `P k` holds of the state after `k` rounds -/
theorem foldl_range_inv {α : Type} (f : α → Nat → α) (P : Nat → α → Prop) (n : Nat) (a : α)
    (h0 : P 0 a) (hs : ∀ k a, k < n → P k a → P (k + 1) (f a k)) : P n ((List.range n).foldl f a) := by
  induction n with
  | zero => exact h0
  | succ n ih =>
    rw [List.range_succ, List.foldl_append]
    exact hs n _ (Nat.lt_succ_self n) (ih fun k a hk => hs k a (Nat.lt_succ_of_lt hk))

/-- two nested counting loops are one loop over the cells `(i, j)`, `j` outermost -/
theorem foldl_range_range {α : Type} (f : α → Nat → Nat → α) (n k : Nat) (a : α) :
    (List.range n).foldl (fun acc j => (List.range k).foldl (fun a i => f a i j) acc) a
      = ((List.range n).flatMap fun j => (List.range k).map fun i => (i, j)).foldl (fun a e => f a e.1 e.2) a := by
  rw [List.foldl_flatMap]; simp only [List.foldl_map]

theorem mem_cells {n k i j : Nat} :
    (i, j) ∈ ((List.range n).flatMap fun j => (List.range k).map fun i => (i, j)) ↔ j < n ∧ i < k := by
  simp only [List.mem_flatMap, List.mem_map, List.mem_range, Prod.mk.injEq]
  constructor
  · rintro ⟨_, hj, _, hi, rfl, rfl⟩; exact ⟨hj, hi⟩
  · rintro ⟨hj, hi⟩; exact ⟨j, hj, i, hi, rfl, rfl⟩

theorem count_range_le (p : Nat → Bool) (n : Nat) : ((List.range n).filter p).length ≤ n :=
  Nat.le_trans (List.length_filter_le _ _) (Nat.le_of_eq List.length_range)

theorem count_range_add (p : Nat → Bool) (a b : Nat) :
    ((List.range (a + b)).filter p).length
      = ((List.range a).filter p).length + ((List.range b).filter fun x => p (a + x)).length := by
  rw [List.range_add, List.filter_append, List.length_append, List.filter_map, List.length_map]; rfl

theorem count_range_succ (p : Nat → Bool) (n : Nat) :
    ((List.range (n + 1)).filter p).length = ((List.range n).filter p).length + (p n).toNat := by
  rw [List.range_succ, List.filter_append, List.length_append]
  cases h : p n <;> simp [h]

theorem count_range_ge (p : Nat → Bool) (a n : Nat) :
    ((List.range n).filter fun j => decide (a ≤ j) && p j).length = ((List.range (n - a)).filter fun x => p (a + x)).length := by
  have h0 : ∀ k, k ≤ a → ((List.range k).filter fun j => decide (a ≤ j) && p j) = [] := fun k hk =>
    List.filter_eq_nil_iff.mpr fun j hj => by have := List.mem_range.mp hj; simp; omega
  rcases Nat.le_total a n with h | h
  · obtain ⟨d, rfl⟩ := Nat.exists_eq_add_of_le h
    rw [Nat.add_sub_cancel_left, count_range_add, h0 a (Nat.le_refl a), List.length_nil, Nat.zero_add]
    exact congrArg List.length (List.filter_congr fun x _ => by simp)
  · rw [h0 n h, Nat.sub_eq_zero_of_le h]; rfl

end ListHelper
