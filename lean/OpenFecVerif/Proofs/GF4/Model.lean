import Mathlib.Algebra.Field.MinimalAxioms
import OpenFecVerif.Proofs.GF.Prim
import OpenFecVerif.Proofs.RS
/-! GF(2^4) = GF(2)[x]/(x^4+x+1) as a Mathlib `Field` (laws from `GF.Primitive 4 poly4`) and as a `FieldModel` of the
executable operations `RS.fld4`. -/
namespace GF4
open GF

/-- discrete logarithm to base x -/
def log4 (a : ℕ) : ℕ := [0, 0, 1, 4, 2, 8, 5, 10, 3, 14, 9, 7, 6, 13, 11, 12].getD a 0

theorem prim : Primitive 4 poly4 log4 where
  pos := by decide
  deg := by decide
  one_mul := by decide +kernel
  period := by decide +kernel
  xpow_log := by decide +kernel
  log_xpow := by decide +kernel

theorem mul_lt16 (a b : Fin 16) : mul4 a b < 16 := mul_lt prim.deg _ a.isLt
theorem inv_lt16 (a : Fin 16) : RS.pow mul4 a 14 < 16 := mul_lt prim.deg _ a.isLt
theorem xor_lt16 (a b : Fin 16) : a.val ^^^ b.val < 16 := Nat.xor_lt_two_pow (n := 4) a.isLt b.isLt

structure GF16 where
  val : Fin 16
deriving DecidableEq

namespace GF16
instance : Zero GF16 := ⟨⟨0⟩⟩
instance : One GF16 := ⟨⟨1⟩⟩
instance : Add GF16 := ⟨fun a b => ⟨⟨a.val.val ^^^ b.val.val, xor_lt16 a.val b.val⟩⟩⟩
instance : Neg GF16 := ⟨fun a => a⟩
instance : Mul GF16 := ⟨fun a b => ⟨⟨mul4 a.val b.val, mul_lt16 a.val b.val⟩⟩⟩
instance : Inv GF16 := ⟨fun a => ⟨⟨RS.pow mul4 a.val 14, inv_lt16 a.val⟩⟩⟩

theorem ext' {a b : GF16} (h : a.val.val = b.val.val) : a = b := by
  cases a; cases b; simp only [mk.injEq]; exact Fin.ext h

instance : Field GF16 := Field.ofMinimalAxioms GF16
  (fun a b c => ext' (Nat.xor_assoc ..))
  (fun a => ext' (Nat.zero_xor _))
  (fun a => ext' (Nat.xor_self _))
  (fun a b c => ext' (prim.mul_assoc a.val.isLt b.val.isLt c.val.isLt))
  (fun a b => ext' (prim.mul_comm a.val.isLt b.val.isLt))
  (fun a => ext' (prim.one_mul _ a.val.isLt))
  (fun a h => ext' (prim.mul_pow_inv (Nat.pos_of_ne_zero fun e => h (ext' e)) a.val.isLt))
  (ext' (pow_zero_left 13))
  (fun a b c => ext' (prim.mul_xor_right _ _ a.val.isLt b.val.isLt c.val.isLt))
  ⟨0, 1, by decide⟩

def ofNat (n : ℕ) : GF16 := ⟨Fin.ofNat 16 n⟩
end GF16
open GF16

theorem ofNat_val (a : Fin 16) : (ofNat a).val.val = a := Nat.mod_eq_of_lt a.isLt

theorem ofNat_inj : ∀ a b : Fin 16, ofNat a = ofNat b → a = b :=
  fun a b h => Fin.ext (by rw [← ofNat_val a, ← ofNat_val b, h])

theorem ofNat_xor : ∀ a b : Fin 16, ofNat (a.val ^^^ b.val) = ofNat a + ofNat b := fun a b => ext' <| by
  show _ = (ofNat a).val.val ^^^ (ofNat b).val.val
  rw [ofNat_val a, ofNat_val b]
  exact ofNat_val ⟨_, xor_lt16 a b⟩

theorem ofNat_mul : ∀ a b : Fin 16, ofNat (mul4 a b) = ofNat a * ofNat b := fun a b => ext' <| by
  show _ = mul4 (ofNat a).val.val (ofNat b).val.val
  rw [ofNat_val a, ofNat_val b]
  exact ofNat_val ⟨_, mul_lt16 a b⟩

theorem ofNat_inv : ∀ a : Fin 16, ofNat (RS.pow mul4 a 14) = (ofNat a)⁻¹ := fun a => ext' <| by
  show _ = RS.pow mul4 (ofNat a).val.val 14
  rw [ofNat_val a]
  exact ofNat_val ⟨_, inv_lt16 a⟩

theorem pt_lt : ∀ i : Fin 16, RS.pt RS.fld4 i < 16 := fun i => prim.pt_lt (fun _ => rfl) i
theorem pt_lt' (i : ℕ) : RS.pt RS.fld4 i < 16 := prim.pt_lt (fun _ => rfl) i

theorem pt_inj15 (i j : Fin 15) (h : RS.pt RS.fld4 i = RS.pt RS.fld4 j) : i = j :=
  Fin.ext (prim.pt_inj (fun _ => rfl) i.isLt j.isLt h)

def model : FieldModel GF16 RS.fld4 where
  N := 16
  φ := ofNat
  φ_inj := fun a b ha hb h => congrArg Fin.val (ofNat_inj ⟨a, ha⟩ ⟨b, hb⟩ h)
  φ_zero := rfl
  φ_one := rfl
  φ_xor := fun a b ha hb => ofNat_xor ⟨a, ha⟩ ⟨b, hb⟩
  φ_mul := fun a b ha hb => ofNat_mul ⟨a, ha⟩ ⟨b, hb⟩
  φ_inv := fun a ha => ofNat_inv ⟨a, ha⟩
  xor_lt := fun a b ha hb => Nat.xor_lt_two_pow (n := 4) ha hb
  mul_lt := fun a b ha hb => mul_lt16 ⟨a, ha⟩ ⟨b, hb⟩
  inv_lt := fun a ha => inv_lt16 ⟨a, ha⟩
  one_lt := by omega
  pt_lt := pt_lt'
  pt_inj := fun i j hi hj h => congrArg Fin.val (pt_inj15 ⟨i, hi⟩ ⟨j, hj⟩ h)

end GF4
