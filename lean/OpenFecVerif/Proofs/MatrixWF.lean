/-!
What the decoder and encoder theorems assume of a system of parity-check equations (a list of rows, each a list of ESIs): in the
Bool form the model evaluates on every matrix it builds, in the Prop form the proofs use, and the conversions between the two
(`stairCheck_iff`, for the check that is part of the session model, is in `Proofs/Session.lean`).
-/

/-- a row read by index is a row of the list, or the default beyond its end -/
theorem List.getD_nil_or_mem (H : List (List Nat)) (i : Nat) : H.getD i [] = [] ∨ H.getD i [] ∈ H := by
  rw [List.getD_eq_getElem?_getD]
  cases h : H[i]? with
  | none => exact .inl rfl
  | some row => exact .inr (List.mem_of_getElem? h)

/-- rows by index (as `Stair`, `Api.stairCheck`, `ITRefine.Hf` read them) and rows by membership (as `WFH`, `Codeword` do) -/
theorem List.forall_getD_nil_iff {P : List Nat → Prop} (H : List (List Nat)) :
    (∀ i, i < H.length → P (H.getD i [])) ↔ ∀ row ∈ H, P row := by
  have hg : ∀ i (hi : i < H.length), H.getD i [] = H[i] := fun i hi => by
    rw [List.getD_eq_getElem?_getD, List.getElem?_eq_getElem hi, Option.getD_some]
  constructor
  · intro h row hrow
    obtain ⟨i, hi, rfl⟩ := List.mem_iff_getElem.mp hrow
    exact hg i hi ▸ h i hi
  · exact fun h i hi => hg i hi ▸ h _ (List.getElem_mem hi)

/-- executable well-formedness check of a matrix (the model evaluates it on every matrix it builds):
entries below n, no repeated entry in an equation, no equation with exactly one entry -/
def wfCheck (n : Nat) (Hl : List (List Nat)) : Bool :=
  Hl.all fun row => row.all (· < n) && row.length != 1 && decide row.Nodup

theorem wfCheck_iff {n : Nat} {Hl : List (List Nat)} :
    wfCheck n Hl = true ↔ ∀ row ∈ Hl, row.Nodup ∧ (∀ e ∈ row, e < n) ∧ row.length ≠ 1 := by
  simp only [wfCheck, List.all_eq_true, Bool.and_eq_true, decide_eq_true_eq, bne_iff_ne, ne_eq]
  exact forall₂_congr fun _ _ => ⟨fun ⟨⟨a, b⟩, c⟩ => ⟨c, a, b⟩, fun ⟨c, a, b⟩ => ⟨⟨a, b⟩, c⟩⟩

namespace MLComplete

/-- well-formedness of the equations w.r.t. n = k + r -/
def WFH (H : List (List Nat)) (n : Nat) : Prop := ∀ row ∈ H, row.Nodup ∧ ∀ e ∈ row, e < n

theorem WFH.of_wfCheck {n : Nat} {H : List (List Nat)} (h : wfCheck n H = true) : WFH H n :=
  fun row hrow => ⟨(wfCheck_iff.mp h row hrow).1, (wfCheck_iff.mp h row hrow).2.1⟩

end MLComplete

namespace LdpcEnc

/-- staircase shape: equation i contains its own repair symbol k+i, and only symbols with smaller ESI besides -/
structure Stair (k : Nat) (H : List (List Nat)) : Prop where
  nodup : ∀ i, i < H.length → (H.getD i []).Nodup
  own : ∀ i, i < H.length → (k + i) ∈ H.getD i []
  lower : ∀ i, i < H.length → ∀ e ∈ H.getD i [], e ≠ k + i → e < k + i

theorem Stair.lt_of_mem_filter {k : Nat} {H : List (List Nat)} (h : Stair k H) {i : Nat} (hi : i < H.length) :
    ∀ e ∈ (H.getD i []).filter (fun e => e != k + i), e < k + i :=
  fun e he => h.lower i hi e (List.mem_filter.mp he).1 (bne_iff_ne.mp (List.mem_filter.mp he).2)

end LdpcEnc

namespace Parity

/-- number of equations containing symbol e -/
def colWeight (H : List (List Nat)) (e : Nat) : Nat := (H.filter fun row => row.contains e).length

/-- a column's weight is the length of any duplicate-free list of the equations that contain it -/
theorem colWeight_eq_length (r : Nat) (f : Nat → List Nat) (e : Nat) (L : List Nat) (hnd : L.Nodup) (hlt : ∀ x ∈ L, x < r)
    (h : ∀ i, i < r → (e ∈ f i ↔ i ∈ L)) : Parity.colWeight ((List.range r).map f) e = L.length := by
  unfold Parity.colWeight
  rw [List.filter_map, List.length_map]
  apply List.Perm.length_eq
  rw [List.perm_ext_iff_of_nodup (List.nodup_range.filter _) hnd]
  intro i
  simp only [List.mem_filter, List.mem_range, Function.comp, List.contains_iff_mem]
  exact ⟨fun ⟨hi, hc⟩ => (h i hi).mp hc, fun hi => ⟨hlt i hi, (h i (hlt i hi)).mpr hi⟩⟩

end Parity
