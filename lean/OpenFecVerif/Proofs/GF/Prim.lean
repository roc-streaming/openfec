import OpenFecVerif.Model.RS
/-!
Bit-level GF(2^m) (`GF.xtime`, `GF.mul`, `GF.xpow` of Model/GF.lean) for any `m` and any `poly` of degree `m`
(`poly / 2 ^ m = 1`).  `xtime` is xor-linear, hence so is `mul` in its first argument and
`mul (xtime a) b = xtime (mul a b)`: multiplying by a power of x is iterating `xtime`.  When every non-zero element is a
power of x (`Primitive`), products are sums of exponents, which gives commutativity, associativity and inverses without
looking at pairs of elements.
-/
namespace GF
variable {m poly : Nat}

theorem div_two_pow_eq_one {x : Nat} (lo : ¬ x < 2 ^ m) (hi : x < 2 * 2 ^ m) : x / 2 ^ m = 1 :=
  Nat.div_eq_of_lt_le (k := 1) (n := 2 ^ m) (m := x) (by omega) (by omega)

/-- the reduction step without a case distinction: the quotient is the bit shifted out -/
theorem xtime_eq {a : Nat} (ha : a < 2 ^ m) : xtime m poly a = (2 * a) ^^^ (2 * a / 2 ^ m * poly) := by
  unfold xtime
  by_cases h : 2 * a < 2 ^ m
  · simp [h, Nat.div_eq_of_lt h]
  · simp [h, div_two_pow_eq_one h (by omega)]

theorem xtime_zero : xtime m poly 0 = 0 := by simp [xtime, Nat.two_pow_pos]

theorem xtime_xor {a b : Nat} (ha : a < 2 ^ m) (hb : b < 2 ^ m) :
    xtime m poly (a ^^^ b) = xtime m poly a ^^^ xtime m poly b := by
  have two : ∀ x : Nat, 2 * x = x <<< 1 := fun x => by rw [Nat.shiftLeft_eq]; omega
  have bit : ∀ {q q'}, q < 2 → q' < 2 → (q ^^^ q') * poly = q * poly ^^^ q' * poly := by
    intro q q' h h'
    obtain rfl | rfl : q = 0 ∨ q = 1 := by omega
    all_goals obtain rfl | rfl : q' = 0 ∨ q' = 1 := by omega
    all_goals simp
  rw [xtime_eq ha, xtime_eq hb, xtime_eq (Nat.xor_lt_two_pow ha hb), two (a ^^^ b), Nat.shiftLeft_xor_distrib,
    ← two, ← two, Nat.xor_div_two_pow, bit (Nat.div_lt_of_lt_mul (by omega)) (Nat.div_lt_of_lt_mul (by omega))]
  ac_rfl

section
variable (hp : poly / 2 ^ m = 1)
include hp

theorem xtime_lt {a : Nat} (ha : a < 2 ^ m) : xtime m poly a < 2 ^ m := by
  unfold xtime
  by_cases h : 2 * a < 2 ^ m
  · simp [h]
  · simp only [h, if_false]
    apply Nat.lt_of_div_eq_zero (Nat.two_pow_pos m)
    rw [Nat.xor_div_two_pow, hp, div_two_pow_eq_one h (by omega), Nat.xor_self]

theorem mulGo_lt (n : Nat) : ∀ {a : Nat} (b : Nat), a < 2 ^ m → mulGo m poly n a b < 2 ^ m := by
  induction n with
  | zero => intro a b _; exact Nat.two_pow_pos m
  | succ n ih =>
    intro a b ha
    exact Nat.xor_lt_two_pow (by split <;> omega) (ih _ (xtime_lt hp ha))

theorem mul_lt {a : Nat} (b : Nat) (ha : a < 2 ^ m) : mul m poly a b < 2 ^ m := mulGo_lt hp m b ha

theorem mulGo_xor_left (n : Nat) : ∀ {a a' : Nat} (b : Nat), a < 2 ^ m → a' < 2 ^ m →
    mulGo m poly n (a ^^^ a') b = mulGo m poly n a b ^^^ mulGo m poly n a' b := by
  induction n with
  | zero => intros; simp [mulGo]
  | succ n ih =>
    intro a a' b ha ha'
    simp only [mulGo, xtime_xor ha ha', ih _ (xtime_lt hp ha) (xtime_lt hp ha')]
    split
    · ac_rfl
    · simp

theorem mul_xor_left {a a' : Nat} (b : Nat) (ha : a < 2 ^ m) (ha' : a' < 2 ^ m) :
    mul m poly (a ^^^ a') b = mul m poly a b ^^^ mul m poly a' b := mulGo_xor_left hp m b ha ha'

theorem mulGo_xtime (n : Nat) : ∀ {a : Nat} (b : Nat), a < 2 ^ m →
    mulGo m poly n (xtime m poly a) b = xtime m poly (mulGo m poly n a b) := by
  induction n with
  | zero => intros; exact xtime_zero.symm
  | succ n ih =>
    intro a b ha
    simp only [mulGo, ih _ (xtime_lt hp ha)]
    rw [xtime_xor (by split <;> omega) (mulGo_lt hp n _ (xtime_lt hp ha))]
    split <;> simp [xtime_zero]

theorem mul_xtime {a : Nat} (b : Nat) (ha : a < 2 ^ m) :
    mul m poly (xtime m poly a) b = xtime m poly (mul m poly a b) := mulGo_xtime hp m b ha
end

theorem mulGo_zero_left (n : Nat) : ∀ b, mulGo m poly n 0 b = 0 := by
  induction n with
  | zero => intro; rfl
  | succ n ih => intro b; simp [mulGo, xtime_zero, ih]

theorem mulGo_zero_right (n : Nat) : ∀ a, mulGo m poly n a 0 = 0 := by
  induction n with
  | zero => intro; rfl
  | succ n ih => intro a; simp [mulGo, ih]

protected theorem zero_mul (b : Nat) : mul m poly 0 b = 0 := mulGo_zero_left m b
protected theorem mul_zero (a : Nat) : mul m poly a 0 = 0 := mulGo_zero_right m a

protected theorem mul_one (hm : 0 < m) (a : Nat) : mul m poly a 1 = a := by
  obtain ⟨n, rfl⟩ := Nat.exists_eq_add_one_of_ne_zero (Nat.ne_of_gt hm)
  simp [mul, mulGo, mulGo_zero_right]

theorem pow_zero_left (n : Nat) : RS.pow (mul m poly) 0 (n + 1) = 0 := GF.zero_mul _

/-- x generates the multiplicative group, with `log` as discrete logarithm: facts about single elements, each checked by
evaluation for the two fields in use, from which the laws about pairs and triples follow -/
structure Primitive (m poly : Nat) (log : Nat → Nat) : Prop where
  pos : 0 < m
  deg : poly / 2 ^ m = 1
  /-- `mul` scans the bits of its second argument, so `mul a 1 = a` is immediate (`GF.mul_one`); this side is checked -/
  one_mul : ∀ b, b < 2 ^ m → mul m poly 1 b = b
  period : xpow m poly (2 ^ m - 1) = 1
  xpow_log : ∀ a, a < 2 ^ m → 0 < a → xpow m poly (log a) = a
  log_xpow : ∀ i, i < 2 ^ m - 1 → log (xpow m poly i) = i

namespace Primitive
variable {log : Nat → Nat} (P : Primitive m poly log)
include P

theorem cases {a : Nat} (ha : a < 2 ^ m) : a = 0 ∨ ∃ i, a = xpow m poly i :=
  (Nat.eq_zero_or_pos a).imp_right fun h0 => ⟨log a, (P.xpow_log a ha h0).symm⟩

theorem one_lt : 1 < 2 ^ m := Nat.one_lt_two_pow (Nat.ne_of_gt P.pos)

theorem xpow_lt : ∀ i, xpow m poly i < 2 ^ m
  | 0 => P.one_lt
  | i + 1 => xtime_lt P.deg (xpow_lt i)

theorem mul_xpow (i j : Nat) : mul m poly (xpow m poly i) (xpow m poly j) = xpow m poly (i + j) := by
  induction i with
  | zero => rw [Nat.zero_add]; exact P.one_mul _ (P.xpow_lt j)
  | succ i ih => rw [Nat.add_right_comm, xpow, mul_xtime P.deg _ (P.xpow_lt i), ih]; rfl

theorem xpow_mul_period (i : Nat) : xpow m poly (i * (2 ^ m - 1)) = 1 := by
  induction i with
  | zero => rw [Nat.zero_mul]; rfl
  | succ i ih => rw [Nat.succ_mul, ← P.mul_xpow, ih, P.period, P.one_mul 1 P.one_lt]

/-- a table of the first `2^m − 1` powers read at `i % (2^m − 1)` is therefore `xpow` itself, for every `i` -/
theorem xpow_mod (i : Nat) : xpow m poly (i % (2 ^ m - 1)) = xpow m poly i := by
  conv => rhs; rw [← Nat.mod_add_div i (2 ^ m - 1), ← P.mul_xpow, Nat.mul_comm, P.xpow_mul_period, GF.mul_one P.pos]

theorem mul_comm {a b : Nat} (ha : a < 2 ^ m) (hb : b < 2 ^ m) : mul m poly a b = mul m poly b a := by
  obtain rfl | ⟨i, rfl⟩ := P.cases ha
  · rw [GF.zero_mul, GF.mul_zero]
  obtain rfl | ⟨j, rfl⟩ := P.cases hb
  · rw [GF.zero_mul, GF.mul_zero]
  rw [P.mul_xpow, P.mul_xpow, Nat.add_comm]

theorem mul_assoc {a b c : Nat} (ha : a < 2 ^ m) (hb : b < 2 ^ m) (hc : c < 2 ^ m) :
    mul m poly (mul m poly a b) c = mul m poly a (mul m poly b c) := by
  obtain rfl | ⟨i, rfl⟩ := P.cases ha
  · simp only [GF.zero_mul]
  obtain rfl | ⟨j, rfl⟩ := P.cases hb
  · simp only [GF.zero_mul, GF.mul_zero]
  obtain rfl | ⟨l, rfl⟩ := P.cases hc
  · simp only [GF.mul_zero]
  simp only [P.mul_xpow, Nat.add_assoc]

theorem mul_xor_right {a : Nat} (b b' : Nat) (ha : a < 2 ^ m) (hb : b < 2 ^ m) (hb' : b' < 2 ^ m) :
    mul m poly a (b ^^^ b') = mul m poly a b ^^^ mul m poly a b' := by
  rw [P.mul_comm ha (Nat.xor_lt_two_pow hb hb'), mul_xor_left P.deg _ hb hb', P.mul_comm hb ha, P.mul_comm hb' ha]

theorem pow_xpow (i : Nat) : ∀ n, RS.pow (mul m poly) (xpow m poly i) n = xpow m poly (i * n)
  | 0 => rfl
  | n + 1 => by rw [RS.pow, pow_xpow i n, P.mul_xpow, Nat.mul_succ, Nat.add_comm]

/-- Fermat, for a power of x -/
theorem xpow_mul_pow_inv (i : Nat) :
    mul m poly (xpow m poly i) (RS.pow (mul m poly) (xpow m poly i) (2 ^ m - 2)) = 1 := by
  have : (2 ^ m - 2).succ = 2 ^ m - 1 := by have := P.one_lt; omega
  rw [P.pow_xpow, P.mul_xpow, Nat.add_comm, ← Nat.mul_succ, this, P.xpow_mul_period]

theorem mul_pow_inv {a : Nat} (h0 : 0 < a) (ha : a < 2 ^ m) : mul m poly a (RS.pow (mul m poly) a (2 ^ m - 2)) = 1 := by
  obtain rfl | ⟨i, rfl⟩ := P.cases ha
  · omega
  · exact P.xpow_mul_pow_inv i

theorem xpow_ne_zero (i : Nat) : xpow m poly i ≠ 0 := fun h => by
  have := P.xpow_mul_pow_inv i
  rw [h, GF.zero_mul] at this
  exact Nat.zero_ne_one this

theorem xpow_inj {i j : Nat} (hi : i < 2 ^ m - 1) (hj : j < 2 ^ m - 1) (h : xpow m poly i = xpow m poly j) : i = j := by
  rw [← P.log_xpow i hi, ← P.log_xpow j hj, h]

/-! evaluation points 0, 1, x, x², … of a Reed-Solomon code whose `xpow` is the bit-level one -/
variable {Fl : RS.Fld} (hx : ∀ i, Fl.xpow i = xpow m poly i)
include hx

theorem pt_lt (i : Nat) : RS.pt Fl i < 2 ^ m := by
  unfold RS.pt; split
  · exact Nat.two_pow_pos m
  · exact hx _ ▸ P.xpow_lt _

theorem pt_inj {i j : Nat} (hi : i < 2 ^ m - 1) (hj : j < 2 ^ m - 1) (h : RS.pt Fl i = RS.pt Fl j) : i = j := by
  unfold RS.pt at h
  simp only [hx] at h
  split at h <;> split at h
  · omega
  · exact absurd h.symm (P.xpow_ne_zero _)
  · exact absurd h (P.xpow_ne_zero _)
  · have := P.xpow_inj (i := i - 1) (j := j - 1) (by omega) (by omega) h
    omega

end Primitive
end GF
