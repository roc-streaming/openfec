import OpenFecVerif.Proofs.ITSound
import OpenFecVerif.Proofs.GaussSound
import OpenFecVerif.Proofs.Session
/-!
# Value-level soundness of the Gaussian-elimination stage as the session model uses it

`Model/Api.lean` (`ldpcFinish`) builds the system handed to the solver from the parity-check equations and the decoder's
table of known symbols: one unknown per symbol that is still unknown (repair symbols first, then source symbols), one
equation per parity-check equation that still has an unknown member, the right-hand side being the sum of its known members.
`simplify_sat`: if the stored values are the transmitted ones and the transmitted block satisfies every parity-check
equation, then the transmitted values of the unknown symbols satisfy every equation of that system — the hypothesis the
solver's soundness theorem needs.  Hence whatever `of_finish_decoding` writes is the transmitted symbol.
-/
namespace MLSound
open Gauss ITSound Api

variable {σ : Type}

/-- the unknown symbols in the order the session model numbers them: repair symbols k..k+r-1, then source symbols -/
def unknowns (known : Nat → Bool) (k r : Nat) : List Nat :=
  ((List.range' k r) ++ (List.range k)).filter fun e => !known e

theorem unknowns_nodup (known : Nat → Bool) (k r : Nat) : (unknowns known k r).Nodup := by
  refine List.Pairwise.filter _ (List.nodup_append.mpr ⟨List.nodup_range' (step := 1), List.nodup_range, fun a ha b hb => ?_⟩)
  simp only [List.mem_range'_1, List.mem_range] at ha hb
  omega

theorem mem_unknowns (known : Nat → Bool) (k r e : Nat) : e ∈ unknowns known k r ↔ e < k + r ∧ known e = false := by
  simp only [unknowns, List.mem_filter, List.mem_append, List.mem_range'_1, List.mem_range, Bool.not_eq_true']
  exact and_congr_left fun _ => by omega

theorem dot_map {O : Ops σ} (hO : Lawful O) (sent : Nat → σ) (p : Nat → Bool) (unk : List Nat) :
    dot O (unk.map p) (unk.map sent) = S O sent (unk.filter p) := by
  induction unk with
  | nil => rfl
  | cons e t ih =>
    rw [List.map_cons, List.map_cons, List.filter_cons]
    cases p e
    · exact (dot_cons_false O _ _ _).trans ih
    · rw [dot_cons_true, ih, if_pos rfl, S_cons hO]

/-- one equation of the simplified system (the expression of `Api.ldpcFinish`) -/
def sysRow (O : Ops σ) (sym : Nat → Option σ) (unk : List Nat) (row : List Nat) : Gauss.Row σ :=
  (unk.map (fun e => row.contains e),
   row.foldl (fun acc e => match sym e with | some x => O.add acc x | none => acc) O.zero)

/-- the coefficient row of `row` picks, among the unknown symbols, exactly the unknown members of `row` -/
theorem dot_unknowns {O : Ops σ} (hO : Lawful O) (x : Nat → σ) (known : Nat → Bool) (k r : Nat) (row : List Nat) (hnd : row.Nodup)
    (hlt : ∀ e ∈ row, e < k + r) :
    dot O ((unknowns known k r).map fun e => row.contains e) ((unknowns known k r).map x)
      = S O x (row.filter fun e => !known e) := by
  rw [dot_map hO]
  apply S_perm hO
  rw [List.perm_ext_iff_of_nodup ((unknowns_nodup _ k r).filter _) (hnd.filter _)]
  intro a
  simp only [List.mem_filter, mem_unknowns, List.contains_iff_mem, Bool.not_eq_true']
  exact ⟨fun ⟨⟨_, h2⟩, h3⟩ => ⟨h3, h2⟩, fun ⟨h1, h2⟩ => ⟨⟨hlt a h1, h2⟩, h1⟩⟩

/-- **The simplification step is sound.** -/
theorem simplify_sat {O : Ops σ} (hO : Lawful O) (sent : Nat → σ) (sym : Nat → Option σ)
    (hs : ∀ e v, sym e = some v → v = sent e) (k r : Nat) (row : List Nat) (hnd : row.Nodup)
    (hlt : ∀ e ∈ row, e < k + r) (hcw : S O sent row = O.zero) :
    Sat O ((unknowns (fun e => (sym e).isSome) k r).map sent) (sysRow O sym (unknowns (fun e => (sym e).isSome) k r) row) := by
  unfold Sat sysRow
  simp only
  rw [dot_unknowns hO sent _ k r row hnd hlt]
  refine Eq.trans ?_ (fold_known hO sent sym hs _ (fun _ _ => rfl) row O.zero).symm
  rw [hO.zero_add]
  refine (hO.eq_of_add_eq_zero ?_).symm
  rw [← S_split hO sent (fun e => (sym e).isSome) row, hcw]

/-- what the theorems assume about the block: every parity-check equation of the session has no repeated entry, stays
inside 0..n-1, and sums to zero on the transmitted block `sent` -/
def Codeword (O : Ops σ) (sent : Nat → σ) (n : Nat) (H : List (List Nat)) : Prop :=
  ∀ row ∈ H, row.Nodup ∧ (∀ e ∈ row, e < n) ∧ S O sent row = O.zero

/-- the simplified system for a table `sym` of known symbols: one equation per parity-check equation that still has an unknown
member (the expression of `Api.ldpcFinish`) -/
def system (O : Ops σ) (sym : Nat → Option σ) (unk : List Nat) (H : List (List Nat)) : List (Gauss.Row σ) :=
  H.filterMap fun row => if row.any (fun e => !(sym e).isSome) then some (sysRow O sym unk row) else none

theorem forall_mem_system {O : Ops σ} {sym : Nat → Option σ} {unk : List Nat} {H : List (List Nat)} {P : Gauss.Row σ → Prop} :
    (∀ rw ∈ system O sym unk H, P rw) ↔ ∀ row ∈ H, (row.any fun e => !(sym e).isSome) = true → P (sysRow O sym unk row) := by
  simp only [system, List.forall_mem_filterMap, Option.ite_none_right_eq_some, Option.some.injEq]
  exact forall₂_congr fun row _ => ⟨fun h hc => h _ ⟨hc, rfl⟩, fun h _ ⟨hc, e⟩ => e ▸ h hc⟩

theorem system_wide (O : Ops σ) (sym : Nat → Option σ) (unk : List Nat) (H : List (List Nat)) : Wide unk.length (system O sym unk H) :=
  forall_mem_system.mpr fun _ _ _ => List.length_map _

/-- writing solved (ESI, value) pairs into the symbol table -/
def writeAll (it : IT.St σ) (srcs : List (Nat × σ)) : IT.St σ :=
  srcs.foldl (fun (t : IT.St σ) pr => { t with sym := t.sym.set pr.1 (some pr.2) }) it

theorem _root_.ITSound.VInv.writeAll {O : Ops σ} {sent : Nat → σ} {it : IT.St σ} (inv : VInv O sent it) (srcs : List (Nat × σ))
    (hs : ∀ pr ∈ srcs, pr.2 = sent pr.1) : VInv O sent (writeAll it srcs) :=
  List.foldlRecOn srcs _ inv fun _ ht pr hpr => hs pr hpr ▸ ht.set_sym pr.1

/-- the source symbols among the solved unknowns -/
def solvedSrcs (p : Params) (it : IT.St σ) (xs : List σ) : List (Nat × σ) :=
  ((unknowns it.known p.k p.r).zip xs).filter (·.1 < p.k)

/-- the system `Api.ldpcFinish` hands to the solver -/
def finSystem (IO : SymIO σ) (s : Session σ) (p : Params) (it : IT.St σ) : List (Gauss.Row σ) :=
  system (IO.ops 3 p.m p.len) it.sym.get (unknowns it.known p.k p.r) s.H

/-- The outcomes of `of_finish_decoding` on the decoder table `it` of a configured session: the status, the table afterwards and
the symbols reported.  Nothing is decoded when the block was complete already, or when the call is refused (matrix consumed, or the
solver refuses the system: the guard on the number of equations only anticipates that); otherwise the solved source symbols are
written. -/
inductive Finish (IO : SymIO σ) (s : Session σ) (p : Params) (it : IT.St σ) : Status → IT.St σ → List Nat → Prop
  | complete : it.complete = true → Finish IO s p it .ok it []
  | refused : it.complete = false →
      (s.mlConsumed = true ∨ solve (IO.ops 3 p.m p.len) (unknowns it.known p.k p.r).length (finSystem IO s p it) = none) →
      Finish IO s p it .failure it []
  | solved (xs : List σ) : it.complete = false → s.mlConsumed = false →
      solve (IO.ops 3 p.m p.len) (unknowns it.known p.k p.r).length (finSystem IO s p it) = some xs →
      Finish IO s p it .ok (writeAll it (solvedSrcs p it xs)) ((solvedSrcs p it xs).map (·.1))

/-- `of_finish_decoding` on a configured session: the equations stay, the provenance table is updated at the reported symbols, and
status, table and reported symbols are one of the three outcomes `Finish` -/
theorem ldpcFinish_cases (IO : SymIO σ) (s : Session σ) (p : Params) (it : IT.St σ) (hit : s.it = some it) :
    ∃ st s' it' ev, ldpcFinish IO s p = (st, s', ev) ∧ s'.H = s.H ∧
      s'.srcProv = ev.foldl (fun (m : TMap (Option Prov)) e => m.set e (some (cbDest s.cb e))) s.srcProv ∧
      s'.it = some it' ∧ Finish IO s p it st it' ev := by
  unfold ldpcFinish
  simp only [hit]
  cases hc : it.complete with
  | true => exact ⟨_, _, _, _, rfl, rfl, rfl, rfl, .complete hc⟩
  | false =>
    simp only [Bool.false_eq_true, if_false]
    cases hm : s.mlConsumed with
    | true => exact ⟨_, _, _, _, rfl, rfl, rfl, hit, .refused hc (.inl hm)⟩
    | false =>
      simp only [Bool.false_eq_true, if_false]
      split
      · exact ⟨_, _, _, _, rfl, rfl, rfl, rfl, .refused hc (.inr (solve_eq_none_of_lt _ ‹_›))⟩
      · split
        · exact ⟨_, _, _, _, rfl, rfl, rfl, rfl, .refused hc (.inr ‹_›)⟩
        · exact ⟨_, _, _, _, rfl, rfl, by rw [List.foldl_map], rfl, .solved _ hc hm ‹_›⟩

def SInv (IO : SymIO σ) (p : Params) (sent : Nat → σ) (s : Session σ) : Prop :=
  Codeword (IO.ops 3 p.m p.len) sent (p.k + p.r) s.H ∧ ∃ it, s.it = some it ∧ VInv (IO.ops 3 p.m p.len) sent it

/-- `of_decode_with_new_symbol` on the session model keeps the invariant when the submitted value is the transmitted one
(before and after a Gaussian elimination has consumed the matrix) -/
theorem ldpcRecv_sound (IO : SymIO σ) (p : Params) (esi j : Nat) {sent : Nat → σ} (hO : Lawful (IO.ops 3 p.m p.len))
    {s : Session σ} (h : SInv IO p sent s) : SInv IO p sent (ldpcRecv IO s p esi (sent esi) j).2.1 := by
  obtain ⟨hcw, it, hit, inv⟩ := h
  rw [ldpcRecv_eq IO s p esi j _ hit]
  refine ⟨hcw, _, rfl, ?_⟩
  unfold recvIt
  split
  · split
    · exact inv.set_sym esi
    · exact inv
  · exact PA_all hO sent _ it esi inv

/-- `of_finish_decoding` on the session model keeps the invariant: whatever Gaussian elimination writes is the transmitted symbol -/
theorem ldpcFinish_sound (IO : SymIO σ) (p : Params) {sent : Nat → σ} (hO : Lawful (IO.ops 3 p.m p.len))
    {s : Session σ} (h : SInv IO p sent s) : SInv IO p sent (ldpcFinish IO s p).2.1 := by
  obtain ⟨hcw, it, hit, inv⟩ := h
  obtain ⟨st, s', it', ev, h, hH, -, hit', hc⟩ := ldpcFinish_cases IO s p it hit
  rw [h]
  refine ⟨hH.symm ▸ hcw, it', hit', ?_⟩
  cases hc with
  | complete | refused => exact inv
  | solved xs _ _ hsolve =>
    refine inv.writeAll _ fun pr hpr => ?_
    -- the solver's answer is the transmitted values of the unknown symbols
    have hx := ((solve_eq_some hO _ _ (system_wide _ _ _ _) xs hsolve).2 _ (List.length_map _)
      (forall_mem_system.mpr fun row hm _ =>
        simplify_sat hO sent _ inv.sym_ok p.k p.r row (hcw row hm).1 (hcw row hm).2.1 (hcw row hm).2.2)).symm
    have hz := (List.mem_filter.mp hpr).1
    rw [hx, ← List.map_prod_left_eq_zip] at hz
    obtain ⟨a, _, rfl⟩ := List.mem_map.mp hz
    rfl

/-- the decoding calls of the API on one LDPC-Staircase / 2D session -/
inductive DecOp
  | recv (esi j : Nat)      -- of_decode_with_new_symbol (or one entry of of_set_available_symbols) with the transmitted value
  | finish                  -- of_finish_decoding

/-- the session model driven by a sequence of decoding calls that submit transmitted values -/
def runDec (IO : SymIO σ) (p : Params) (sent : Nat → σ) : Session σ → List DecOp → Session σ
  | s, [] => s
  | s, .recv esi j :: t => runDec IO p sent (ldpcRecv IO s p esi (sent esi) j).2.1 t
  | s, .finish :: t => runDec IO p sent (ldpcFinish IO s p).2.1 t

/-- **Every symbol an LDPC-Staircase / 2D decoder session holds is the transmitted one**, after any sequence of submissions
(any order, duplicates, either API) and `of_finish_decoding` calls, at every point of the sequence. -/
theorem runDec_sound (IO : SymIO σ) (p : Params) {sent : Nat → σ} (hO : Lawful (IO.ops 3 p.m p.len)) :
    ∀ (ops : List DecOp) {s : Session σ}, SInv IO p sent s → SInv IO p sent (runDec IO p sent s ops)
  | [], _, h => h
  | .recv esi j :: t, _, h => runDec_sound IO p hO t (ldpcRecv_sound IO p esi j hO h)
  | .finish :: t, _, h => runDec_sound IO p hO t (ldpcFinish_sound IO p hO h)

end MLSound
