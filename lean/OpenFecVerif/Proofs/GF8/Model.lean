import Mathlib.Algebra.Field.MinimalAxioms
import OpenFecVerif.Proofs.GF.Prim
import OpenFecVerif.Proofs.GF8.Defs
import OpenFecVerif.Proofs.RS
/-!
GF(2^8) = GF(2)[x]/(x^8+x^4+x^3+x^2+1) as a Mathlib `Field`, on a one-field structure over `Fin 256`,
with addition = xor and multiplication = the bit-level `GF.mul8`.  The laws come from `GF.Primitive 8 poly8`;
that x is primitive is read off the candidate tables `E` (exponential) and `L` (logarithm) of `Defs.lean`, which are
checked here against the bit-level `xpow8`, one element at a time.
-/
namespace GF8
open GF

theorem E_xpow : ∀ i, i < 255 → E i = xpow8 i := by decide +kernel
theorem L_lt : ∀ a, a < 256 → 0 < a → L a < 255 := by decide +kernel

theorem prim : Primitive 8 poly8 L where
  pos := by decide
  deg := by decide
  one_mul := by decide +kernel
  period := by decide +kernel
  xpow_log := by decide +kernel
  log_xpow := by decide +kernel

theorem xor_lt' {a b : ℕ} (ha : a < 256) (hb : b < 256) : a ^^^ b < 256 := Nat.xor_lt_two_pow (n := 8) ha hb
theorem mul8_lt {a : ℕ} (b : ℕ) (ha : a < 256) : mul8 a b < 256 := mul_lt prim.deg b ha

/-- inverse of a non-zero element through the log/exp tables -/
def inv8 (a : ℕ) : ℕ := if a = 0 then 0 else E ((255 - L a) % 255)

theorem inv8_lt (a : ℕ) : inv8 a < 256 := by
  unfold inv8; split
  · omega
  · exact Nat.mod_lt _ (by decide)

theorem mul8_inv8 {a : ℕ} (ha : a < 256) (h0 : a ≠ 0) : mul8 a (inv8 a) = 1 := by
  have hL := L_lt a ha (Nat.pos_of_ne_zero h0)
  rw [inv8, if_neg h0, E_xpow _ (Nat.mod_lt _ (by omega))]
  conv => lhs; arg 1; rw [← prim.xpow_log a ha (Nat.pos_of_ne_zero h0)]
  rw [mul8, xpow8, prim.xpow_mod (255 - L a), prim.mul_xpow, Nat.add_sub_cancel' hL.le]
  exact prim.period

structure GF256 where
  val : Fin 256
deriving DecidableEq

namespace GF256
instance : Zero GF256 := ⟨⟨0⟩⟩
instance : One GF256 := ⟨⟨1⟩⟩
instance : Add GF256 := ⟨fun a b => ⟨⟨a.val.val ^^^ b.val.val, xor_lt' a.val.isLt b.val.isLt⟩⟩⟩
instance : Neg GF256 := ⟨fun a => a⟩
instance : Mul GF256 := ⟨fun a b => ⟨⟨mul8 a.val.val b.val.val, mul8_lt _ a.val.isLt⟩⟩⟩
instance : Inv GF256 := ⟨fun a => ⟨⟨inv8 a.val.val, inv8_lt _⟩⟩⟩

/-- embedding of the naturals below 256 -/
def ofNat (n : ℕ) : GF256 := ⟨Fin.ofNat 256 n⟩

theorem ext' {a b : GF256} (h : a.val.val = b.val.val) : a = b := by
  cases a; cases b; simp only [mk.injEq]; exact Fin.ext h

@[simp] theorem add_val (a b : GF256) : (a + b).val.val = a.val.val ^^^ b.val.val := rfl
@[simp] theorem mul_val (a b : GF256) : (a * b).val.val = mul8 a.val.val b.val.val := rfl
@[simp] theorem inv_val (a : GF256) : (a⁻¹).val.val = inv8 a.val.val := rfl
@[simp] theorem zero_val : (0 : GF256).val.val = 0 := rfl
@[simp] theorem one_val : (1 : GF256).val.val = 1 := rfl
@[simp] theorem neg_eq (a : GF256) : -a = a := rfl

instance : Field GF256 := Field.ofMinimalAxioms GF256
  (fun a b c => ext' (by simp [Nat.xor_assoc]))
  (fun a => ext' (by simp))
  (fun a => ext' (by simp))
  (fun a b c => ext' (prim.mul_assoc a.val.isLt b.val.isLt c.val.isLt))
  (fun a b => ext' (prim.mul_comm a.val.isLt b.val.isLt))
  (fun a => ext' (prim.one_mul _ a.val.isLt))
  (fun a h => ext' (mul8_inv8 a.val.isLt fun e => h (ext' e)))
  (ext' (by simp [inv8]))
  (fun a b c => ext' (prim.mul_xor_right _ _ a.val.isLt b.val.isLt c.val.isLt))
  ⟨0, 1, by decide⟩

end GF256

/-! The naturals below 256 with xor / `GF.mul8` / a^254 are a faithful copy of the field `GF256`
(`FieldModel GF256 RS.fld8`), and the evaluation points 0, 1, x, x², … of the first 255 symbols are distinct. -/
open GF256

theorem ofNat_val {a : ℕ} (ha : a < 256) : (ofNat a).val.val = a := by
  simp [ofNat, Fin.ofNat, Nat.mod_eq_of_lt ha]

theorem pow_lt (a : ℕ) (ha : a < 256) : ∀ n, RS.pow mul8 a n < 256
  | 0 => by simp [RS.pow]
  | n+1 => mul8_lt _ ha

theorem pt_lt (i : ℕ) : RS.pt RS.fld8 i < 256 := prim.pt_lt (fun _ => rfl) i

theorem pt_inj (i j : ℕ) (hi : i < 255) (hj : j < 255) (h : RS.pt RS.fld8 i = RS.pt RS.fld8 j) : i = j :=
  prim.pt_inj (fun _ => rfl) hi hj h

def model : FieldModel GF256 RS.fld8 where
  N := 256
  φ := ofNat
  φ_inj := by
    intro a b ha hb h
    rw [← ofNat_val ha, ← ofNat_val hb, h]
  φ_zero := rfl
  φ_one := rfl
  φ_xor := by
    intro a b ha hb
    apply ext'
    rw [add_val, ofNat_val ha, ofNat_val hb, ofNat_val (xor_lt' ha hb)]
  φ_mul := by
    intro a b ha hb
    apply ext'
    rw [mul_val, ofNat_val ha, ofNat_val hb]
    exact ofNat_val (mul8_lt b ha)
  φ_inv := by
    intro a ha
    rcases Nat.eq_zero_or_pos a with rfl | h0
    · show ofNat (RS.pow mul8 0 254) = (0 : GF256)⁻¹
      rw [show RS.pow mul8 0 254 = 0 from pow_zero_left 253, inv_zero]; rfl
    · refine eq_inv_of_mul_eq_one_right (ext' ?_)
      rw [mul_val, ofNat_val ha]
      exact (congrArg _ (ofNat_val (pow_lt a ha 254))).trans (prim.mul_pow_inv h0 ha)
  xor_lt := fun a b ha hb => xor_lt' ha hb
  mul_lt := fun a b ha _ => mul8_lt b ha
  inv_lt := fun a ha => pow_lt a ha 254
  one_lt := by omega
  pt_lt := pt_lt
  pt_inj := fun i j hi hj h => pt_inj i j (by omega) (by omega) h

end GF8
