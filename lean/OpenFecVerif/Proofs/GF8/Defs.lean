import OpenFecVerif.Model.GF
/-! `expPacked`/`logPacked` are candidate exp/log tables of GF(2^8) written as literals (one byte per
entry); nothing is assumed about them: `Proofs/GF8/Model.lean` *checks* them against the
bit-level definitions by kernel evaluation (`E_xpow`, `GF8.prim`). -/
namespace GF8
open GF
def expPacked : Nat := 0x8e47add86c361b83cfe9fa7db0582c160b8bcbebfbf3f7f5f47a3d90482412098a45ac562b9bc3eff9f279b259a251a653a7dde070381c0e078dc86432198241ae57a5dc6e3795c46231964babdbe3fff1f67bb3d7e5fc7e3f91c663bfd1e673b7d5e472399249aa55a452299a4da8542a158442219e4fa9da6db85c2e1785cc663397c5ec763b93c7edf87c3e1f81ce67bdd068341a0d884422118643afd9e271b65ba3dfe1fe7fb1d66bbbd3e7fdf0783c1e0f89ca65bc5e2f99c261be5fa1de6fb9d269ba5da05028140a058c46239fc1ee77b5d46a35944a259c4e279dc06030180c06038fc9ea75b45a2d984c261387cde8743a1d8040201008040201
def logPacked : Nat := 0xaf5850a8eaf4d674e8ade7e6e9d5ae4fd72c757aeb16f50b51a0a99cb05f59cb5a3eccbbb18660fbaa559d29523ba16cf66f0c7fec4917c476a47bb7d8432d1fa2416d4753393c849e5d2a14abd356f261befcdcb2978790cdcfbc955bd13f372e892023d99244117cb4b8267799a5e318fec531edde4a670d63808cf7c0700757a7f373ace5d44e2b79150a9f9b5eca3dba85fa54283a6b6e7e48c3a3b6421e404638835c13d2f1bddb968fce94d03688229110b32598e2fd30dd66628bbf06a672e44d78099ac9b9f9276a7dc2b51d458212f0da8e9335210f24e12f658a05714c08c8f869c11c81ef8d340ee064044bc7681bee33df03c61a3202190100ff
def E (i : Nat) : Nat := unpack 8 expPacked i
def L (a : Nat) : Nat := unpack 8 logPacked a
end GF8
