import OpenFecVerif.Proofs.ITAbs
/-!
Sequences of top-level submissions to the (value-free) iterative decoder: after ANY finite sequence of
submissions — any order, repetitions allowed — the set of known symbols is exactly the peeling closure
of the set of submitted symbols (when decoding is not complete), and decoding is complete exactly when
the closure contains every source symbol.
-/
namespace ITAbs

def Keeps (s0 s : St) : Prop := (∀ e, s0.known e = true → s.known e = true) ∧ s.k = s0.k ∧ s.m = s0.m

theorem Keeps.refl (s : St) : Keeps s s := ⟨fun _ h => h, rfl, rfl⟩

theorem Keeps.mark {s0 s : St} (h : Keeps s0 s) (esi : Nat) : Keeps s0 (s.mark esi) :=
  ⟨fun e he => mark_mono s esi e (h.1 e he), h.2⟩

theorem Keeps.inject {s0 s : St} (h : Keeps s0 s) (esi R : Nat) : Keeps s0 (inject s esi R).1 := by
  obtain ⟨i1, i3, i2, _⟩ := inject_spec s esi R
  exact ⟨fun e he => by rw [i1]; exact h.1 e he, i2.trans h.2.1, i3.trans h.2.2⟩

/-- No invariant is assumed, unlike in `decode_closed`: this also has to serve on a complete block, of which `Good` need not hold
    (the call that completes the block stops where it is). -/
theorem keeps_decode_drain : (∀ fuel s esi s0, Keeps s0 s → Keeps s0 (decode fuel s esi)) ∧
    ∀ fuel s l s0, Keeps s0 s → Keeps s0 (drain fuel s l) := by
  apply decode.mutual_induct (fun fuel s esi => ∀ s0, Keeps s0 s → Keeps s0 (decode fuel s esi))
    (fun fuel s l => ∀ s0, Keeps s0 s → Keeps s0 (drain fuel s l))
  · intro s esi s0 h
    rwa [decode_zero]
  · intro s esi f hk s0 h
    rwa [decode_of_known hk]
  · intro s esi f hk _ hc s0 h
    rw [decode_succ, if_neg hk, if_pos hc]
    exact h.mark esi
  · intro s esi f hk _ hc _ ih s0 h
    rw [decode_succ, if_neg hk, if_neg hc]
    exact ih s0 ((h.mark esi).inject esi _)
  · intro f s s0 h
    rwa [drain_nil]
  · intro f s r rest hc s0 h
    rwa [drain_complete _ _ _ hc]
  · intro f s r rest hc e he ih1 ih2 s0 h
    rw [drain_cons_single he (by simpa using hc)]
    exact ih2 s0 (ih1 s0 h)
  · intro f s r rest hc hne ih s0 h
    rw [drain_cons_skip (fun e he => hne e he), if_neg hc]
    exact ih s0 h

theorem decode_knows (fuel : Nat) (s : St) (esi : Nat) : (decode (fuel+1) s esi).known esi = true := by
  by_cases hk : s.known esi = true
  · rwa [decode_of_known hk]
  rw [decode_succ, if_neg hk]
  have hme : (s.mark esi).known esi = true := by simp [mark_known]
  split
  · exact hme
  · exact (keeps_decode_drain.2 fuel _ _ (s.mark esi) ((Keeps.refl _).inject esi _)).1 esi hme

/-- on an already complete block a submission only records the symbol -/
theorem decode_on_complete (fuel : Nat) (s : St) (esi : Nat) (hc : s.complete = true) :
    (decode (fuel+1) s esi).complete = true ∧
    ∀ x, (decode (fuel+1) s esi).known x = true → s.known x = true ∨ x = esi := by
  by_cases hk : s.known esi = true
  · rw [decode_of_known hk]
    exact ⟨hc, fun x hx => Or.inl hx⟩
  rw [decode_succ, if_neg hk]
  have hmc : (s.mark esi).complete = true := complete_mono s (s.mark esi) rfl (mark_mono s esi) hc
  have hmk : ∀ x, (s.mark esi).known x = true → s.known x = true ∨ x = esi := by
    intro x hx
    rw [mark_known] at hx
    split at hx
    · exact Or.inr ‹_›
    · exact Or.inl hx
  split
  · exact ⟨hmc, hmk⟩
  · obtain ⟨i1, _, i2, _⟩ := inject_spec (s.mark esi) esi (s.mark esi).m
    have hic : (inject (s.mark esi) esi (s.mark esi).m).1.complete = true :=
      complete_mono _ _ i2 (fun e he => by rw [i1]; exact he) hmc
    rw [drain_complete _ _ _ hic]
    exact ⟨hic, fun x hx => hmk x (by rw [← i1]; exact hx)⟩

section seq
variable (H : Nat → List Nat) (n m k : Nat)

/-- well-formed system of equations: holds of every matrix the model builds (`C05_matrix_wf`, `wfCheck_rowsOf`); the C04 check also
    evaluates it, as `wfCheck`, on each matrix of a run -/
structure WF : Prop where
  lt : ∀ r e, e ∈ H r → e < n
  nodup : ∀ r, (H r).Nodup
  not_one : ∀ r, (H r).length ≠ 1
  beyond : ∀ r, m ≤ r → H r = []

/-- a set of symbols closed under peeling: an equation with all members but one in the set forces the last one in -/
def PeelClosed (D : Nat → Prop) : Prop := ∀ r e, e ∈ H r → (∀ e', e' ∈ H r → e' ≠ e → D e') → D e

/-- the peeling (iterative-erasure) closure of a received set: the least peel-closed superset -/
def InClosure (R : Nat → Prop) (e : Nat) : Prop := ∀ D : Nat → Prop, (∀ x, R x → D x) → PeelClosed H D → D e

theorem inClosure_of_mem (R : Nat → Prop) (e : Nat) (h : R e) : InClosure H R e := fun _ hR _ => hR e h
theorem inClosure_closed (R : Nat → Prop) : PeelClosed H (InClosure H R) := by
  intro r e he hall D hR hD
  exact hD r e he (fun e' he' hne => hall e' he' hne D hR hD)
theorem inClosure_mono (R R' : Nat → Prop) (h : ∀ x, R x → R' x) (e : Nat) (he : InClosure H R e) : InClosure H R' e :=
  fun D hR hD => he D (fun x hx => hR x (h x hx)) hD
theorem inClosure_congr {R R' : Nat → Prop} (h : ∀ x, R x ↔ R' x) (e : Nat) : InClosure H R e ↔ InClosure H R' e :=
  ⟨inClosure_mono H R R' (fun x => (h x).1) e, inClosure_mono H R' R (fun x => (h x).2) e⟩

def init : St := { m := m, k := k, rows := H, known := fun _ => false, armed := fun _ => false,
                   nbu := fun r => (H r).length }

/-- a top-level call of the decoder (fuel n+1 always suffices) -/
def submit (s : St) (esi : Nat) : St := decode (n + 1) s esi

/-- invariant between top-level calls; R = symbols submitted so far -/
structure Inv (R : Nat → Prop) (s : St) : Prop where
  hm : s.m = m
  hk : s.k = k
  recv : ∀ x, R x → s.known x = true
  sound : ∀ x, s.known x = true → InClosure H R x
  closed : s.complete = true ∨ (Good H s none ∧ ∀ r, r < m → (ul H s.known r).length ≠ 1)

theorem inv_init (wf : WF H n m) : Inv H m k (fun _ => False) (init H m k) := by
  have hul : ∀ r, ul H (init H m k).known r = H r := fun r => List.filter_eq_self.2 fun _ _ => rfl
  refine ⟨rfl, rfl, fun x h => h.elim, fun x h => by simp [init] at h, Or.inr ⟨?_, fun r _ => hul r ▸ wf.not_one r⟩⟩
  rw [good_iff]
  intro r _
  exact ⟨fun h => by simp [init] at h, fun _ => Or.inl ⟨rfl, by rw [hul]; rfl, hul r ▸ wf.not_one r⟩⟩

theorem inv_step (wf : WF H n m) (R : Nat → Prop) (s : St) (esi : Nat) (hn : esi < n) (inv : Inv H m k R s) :
    Inv H m k (fun x => R x ∨ x = esi) (submit n s esi) := by
  unfold submit
  have mono : Keeps s (decode (n + 1) s esi) := keeps_decode_drain.1 _ _ _ _ (Keeps.refl s)
  have old : ∀ x, s.known x = true → InClosure H (fun x => R x ∨ x = esi) x :=
    fun x hx => inClosure_mono H R _ (fun y hy => Or.inl hy) x (inv.sound x hx)
  -- dimensions and reception hold whatever the call does; soundness and closedness by what it finds
  suffices h : (∀ x, (decode (n + 1) s esi).known x = true → InClosure H (fun x => R x ∨ x = esi) x) ∧
      ((decode (n + 1) s esi).complete = true ∨
        (Good H (decode (n + 1) s esi) none ∧ ∀ r, r < m → (ul H (decode (n + 1) s esi).known r).length ≠ 1)) from
    ⟨mono.2.2.trans inv.hm, mono.2.1.trans inv.hk,
      fun x hx => hx.elim (fun h => mono.1 x (inv.recv x h)) (fun h => by rw [h]; exact decode_knows n s esi), h.1, h.2⟩
  rcases inv.closed with hc | ⟨hg, hno⟩
  · -- already complete: the symbol is recorded, nothing else happens
    obtain ⟨c1, c2⟩ := decode_on_complete n s esi hc
    exact ⟨fun x hx => (c2 x hx).elim (old x) fun h => inClosure_of_mem H _ x (Or.inr h), Or.inl c1⟩
  by_cases hk : s.known esi = true
  · -- duplicate (or already rebuilt) symbol: the call returns at once
    rw [decode_of_known hk]
    exact ⟨old, Or.inr ⟨hg, hno⟩⟩
  · obtain ⟨d1, _, _, _, d5⟩ := decode_closed H n wf.lt (InClosure H (fun x => R x ∨ x = esi))
      (inClosure_closed H _) wf.nodup s esi (n + 1) hg (by simpa using hk) hn (Nat.le_succ_of_le (cnt_le n s.known))
      (fun r hr ha => hno r (inv.hm ▸ hr) ha.2) old (inClosure_of_mem H _ esi (Or.inr rfl))
    exact ⟨d5, d1.imp_right fun ⟨h1, h2⟩ => ⟨h1, fun r hr => h2 r (inv.hm ▸ hr)⟩⟩

def run (l : List Nat) : St := l.foldl (submit n) (init H m k)

theorem inv_foldl (wf : WF H n m) : ∀ (l : List Nat) (R : Nat → Prop) (s : St), Inv H m k R s → (∀ e ∈ l, e < n) →
    Inv H m k (fun x => R x ∨ x ∈ l) (l.foldl (submit n) s)
  | [], _, _, hs, _ => by simpa using hs
  | a :: t, R, s, hs, hl => by
    have := inv_foldl wf t _ _ (inv_step H n m k wf R s a (hl a (by simp)) hs) fun e he => hl e (by simp [he])
    simpa [or_assoc] using this

theorem inv_run (wf : WF H n m) (l : List Nat) (hl : ∀ e ∈ l, e < n) : Inv H m k (fun x => x ∈ l) (run H n m k l) := by
  simpa [run] using inv_foldl H n m k wf l _ _ (inv_init H n m k wf) hl

theorem known_closed (wf : WF H n m) (s : St) (hg : ∀ r, r < m → (ul H s.known r).length ≠ 1) :
    PeelClosed H (fun e => s.known e = true) := by
  intro r e he hall
  have hr : r < m := Nat.lt_of_not_le fun h => by rw [wf.beyond r h] at he; cases he
  cases hk : s.known e with
  | true => rfl
  | false =>
    -- every member other than e is known and e is not: e is the one unknown of equation r
    have hf : ∀ x ∈ H r, (!s.known x) = (x == e) := fun x hx => by
      by_cases hxe : x = e
      · simp [hxe, hk]
      · simp [hall x hx hxe, hxe]
    refine absurd ?_ (hg r hr)
    rw [ul, List.filter_congr hf, List.filter_beq, (wf.nodup r).count, if_pos he]
    rfl

/-- **Streaming decoding = peeling closure.**  After any sequence `l` of submissions:
(1) every known symbol is in the closure of the submitted set; (2) if decoding is not complete the known set IS
the closure; (3) decoding is complete exactly when the closure contains all k source symbols;
(4) in every case a source symbol is available exactly when it is in the closure. -/
theorem run_eq_closure (wf : WF H n m) (l : List Nat) (hl : ∀ e ∈ l, e < n) :
    let s := run H n m k l
    let R := fun x => x ∈ l
    (∀ e, s.known e = true → InClosure H R e) ∧
    (s.complete = false → ∀ e, s.known e = true ↔ InClosure H R e) ∧
    (s.complete = true ↔ ∀ i, i < k → InClosure H R i) ∧
    (∀ i, i < k → (s.known i = true ↔ InClosure H R i)) := by
  intro s R
  have inv := inv_run H n m k wf l hl
  have hcomp_iff : s.complete = true ↔ ∀ i, i < k → s.known i = true := inv.hk ▸ complete_iff s
  have heq : s.complete = false → ∀ e, s.known e = true ↔ InClosure H R e := fun hnc e =>
    ⟨inv.sound e, fun he => he _ inv.recv (known_closed H n m wf s (inv.closed.resolve_left (ne_true_of_eq_false hnc)).2)⟩
  refine ⟨inv.sound, heq, ⟨fun hc i hi => inv.sound i (hcomp_iff.1 hc i hi), fun hall => ?_⟩, fun i hi => ?_⟩
  · cases hc : s.complete with
    | true => rfl
    | false => exact hc ▸ hcomp_iff.2 fun i hi => (heq hc i).2 (hall i hi)
  · cases hc : s.complete with
    | true => exact ⟨inv.sound i, fun _ => hcomp_iff.1 hc i hi⟩
    | false => exact heq hc i

end seq
end ITAbs
