import OpenFecVerif.Proofs.MatrixWF
import OpenFecVerif.Proofs.ITRefine
import OpenFecVerif.Proofs.ITSeq
/-!
Transfer of the closure theorem to the executable decoder: a session's decoder state after any
sequence of `IT.submit` calls (with arbitrary symbol values) has, as its set of known symbols, exactly
what `ITAbs.run` computes — hence the peeling closure.
-/
namespace ITRefine

variable {σ : Type}

/-- the equations as a total function -/
def Hf (Hl : List (List Nat)) : Nat → List Nat := fun r => Hl.getD r []

theorem Hf_beyond (Hl : List (List Nat)) {r : Nat} (hr : Hl.length ≤ r) : Hf Hl r = [] := by
  simp [Hf, List.getD_eq_getElem?_getD, List.getElem?_eq_none hr]

theorem Hf_nil_or_mem (Hl : List (List Nat)) (r : Nat) : Hf Hl r = [] ∨ Hf Hl r ∈ Hl := Hl.getD_nil_or_mem r

theorem abs_init (k : Nat) (Hl : List (List Nat)) :
    abs (IT.init k Hl : IT.St σ) = ITAbs.init (Hf Hl) Hl.length k := by
  unfold abs IT.init ITAbs.init
  -- field by field: `known` and `armed` of the empty tables reduce to `false`, which leaves `rows` and `nbu`
  congr <;> funext r
  · exact TMap.ofList_get Hl [] r
  · simp only [Hf, TMap.ofList_get, List.getD_eq_getElem?_getD, List.getElem?_map]
    cases Hl[r]? <;> rfl

/-- the executable decoder driven by a sequence of (ESI, value) submissions -/
def runExec (O : Ops σ) (n k : Nat) (Hl : List (List Nat)) (l : List (Nat × σ)) : IT.St σ :=
  l.foldl (fun s p => IT.submit O n s p.1 p.2) (IT.init k Hl)

theorem abs_runExec (O : Ops σ) (n k : Nat) (Hl : List (List Nat)) (l : List (Nat × σ)) :
    abs (runExec O n k Hl l) = ITAbs.run (Hf Hl) n Hl.length k (l.map (·.1)) := by
  unfold runExec ITAbs.run
  rw [← abs_init (σ := σ) k Hl, List.foldl_map]
  exact (List.foldl_hom abs fun s p => (PA_all O (n + 1) s p.1 p.2).symm).symm

end ITRefine
