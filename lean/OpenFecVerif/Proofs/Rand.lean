import OpenFecVerif.Proofs.FP
import OpenFecVerif.Proofs.RfcWF
import OpenFecVerif.Gen.Rand
/-!
Proofs about the *generated* translation of `of_rand.c` (`Gen/Rand.lean`): the Carta
implementation is the Park-Miller minimal standard generator; the seeding guard; the scaled output.
-/
namespace RandProofs
open Gen

def P : ℕ := 2147483647

/-- the specification: one Park-Miller step -/
def pm (s : ℕ) : ℕ := 16807 * s % 2147483647

theorem mul_mod_pos {p a s : ℕ} (hc : Nat.Coprime p a) (h1 : 0 < s) (h2 : s < p) : 0 < a * s % p :=
  Nat.pos_of_ne_zero fun h =>
    Nat.not_le_of_lt h2 (Nat.le_of_dvd h1 (hc.dvd_of_dvd_mul_left (Nat.dvd_of_mod_eq_zero h)))

theorem coprime_fact (s : ℕ) (h1 : 1 ≤ s) (h2 : s ≤ 2147483646) : (16807 * s) % 2147483647 ≠ 0 :=
  (mul_mod_pos (by decide +kernel) h1 (Nat.lt_succ_of_le h2)).ne'

theorem pm_range (s : ℕ) (h1 : 1 ≤ s) (h2 : s ≤ 2147483646) : 1 ≤ pm s ∧ pm s ≤ 2147483646 :=
  ⟨Nat.pos_of_ne_zero (coprime_fact s h1 h2), Nat.le_of_lt_succ (Nat.mod_lt _ (by decide))⟩

/-- reduction modulo `P` of a number written as `w + y·P` with `w < 2P`, when the residue is not 0 (Carta's trick: for `P = 2^31 − 1`
the quotient and remainder by `2^31` give such a `w`) -/
theorem mod_of_split {P n w y : ℕ} (hn : n = w + y * P) (hw : w < 2 * P) (h0 : n % P ≠ 0) :
    (if w > P then w - P else w) = n % P := by
  rw [hn, Nat.add_mul_mod_self_right] at h0 ⊢
  split
  · rw [Nat.mod_eq_sub_mod (by omega), Nat.mod_eq_of_lt (by omega)]
  · rcases Nat.lt_or_eq_of_le (Nat.le_of_not_gt ‹_›) with h | h
    · rw [Nat.mod_eq_of_lt h]
    · rw [h, Nat.mod_self] at h0; exact absurd rfl h0

/-- Carta's split multiplication computes 16807·s mod (2^31−1) for every valid state. -/
theorem step_ok (rn : ℚ → ℚ) (s maxv : ℕ) (h1 : 1 ≤ s) (h2 : s ≤ 2147483646) :
    (of_rfc5170_rand rn s maxv).1 = pm s := by
  unfold of_rfc5170_rand pm
  -- the reductions modulo 2^64 inside the sum are absorbed by the outer one
  simp only [Nat.and_two_pow_sub_one_eq_mod s 16, Nat.shiftRight_eq_div_pow s 16,
    Nat.and_two_pow_sub_one_eq_mod _ 15, Nat.shiftRight_eq_div_pow _ 15, Nat.shiftLeft_eq _ 16, Nat.reducePow,
    Nat.add_mod_mod, Nat.mod_add_mod]
  -- s = 2^16·hi + lo
  have hs := Nat.div_add_mod s 65536
  have hlo := Nat.mod_lt s (show 0 < 65536 by decide)
  generalize s % 65536 = lo at hs hlo ⊢
  generalize s / 65536 = hi at hs ⊢
  rw [Nat.mod_eq_of_lt (show 16807 * hi < 18446744073709551616 by omega)]
  -- 16807·hi = 2^15·bh + bl
  have hb := Nat.div_add_mod (16807 * hi) 32768
  have hbl := Nat.mod_lt (16807 * hi) (show 0 < 32768 by decide)
  generalize 16807 * hi % 32768 = bl at hb hbl ⊢
  generalize 16807 * hi / 32768 = bh at hb ⊢
  -- so 16807·s = w + bh·P with w = 16807·lo + 2^16·bl + bh, as 2^31 = P + 1
  have hw : 16807 * lo + bl * 65536 + bh < 2 * 2147483647 := by omega
  have hw64 : 16807 * lo + bl * 65536 + bh < 18446744073709551616 := hw.trans (by decide)
  rw [← mod_of_split (y := bh) (by rw [← hs, Nat.mul_add, Nat.mul_left_comm, ← hb]; ring) hw (coprime_fact s h1 h2),
    Nat.mod_eq_of_lt hw64]
  split
  · show _ % _ = _
    rw [Nat.sub_add_comm (Nat.le_of_lt ‹_›), Nat.add_mod_right]
    exact Nat.mod_eq_of_lt ((Nat.sub_le _ _).trans_lt hw64)
  · rfl

/-- the returned value is the scaling expression applied to the *new* state -/
theorem out_eq (rn : ℚ → ℚ) (s maxv : ℕ) :
    (of_rfc5170_rand rn s maxv).2 =
      CSem.f2u 64 (rn (rn (rn (((of_rfc5170_rand rn s maxv).1 : ℕ) : ℚ) * rn ((maxv : ℕ) : ℚ)) / ((2147483647 : ℤ) : ℚ))) := by
  unfold of_rfc5170_rand
  simp only []
  split <;> rfl

/-- Whenever s'·maxv < 2^53 the scaled output is the exact floor(s'·maxv / (2^31−1)). -/
theorem scaled_exact (rn : ℚ → ℚ) (h : RN53 rn) (s' maxv : ℕ) (hs : s' < 2 ^ 53) (hm : maxv < 2 ^ 53)
    (hX : s' * maxv < 2 ^ 53) :
    CSem.f2u 64 (rn (rn (rn ((s' : ℕ) : ℚ) * rn ((maxv : ℕ) : ℚ)) / ((2147483647 : ℤ) : ℚ))) = s' * maxv / 2147483647 := by
  rw [FP.rn_nat h s' hs, FP.rn_nat h maxv hm, ← Nat.cast_mul, FP.rn_nat h _ hX,
    show ((2147483647 : ℤ) : ℚ) = ((2147483647 : ℕ) : ℚ) by norm_num]
  exact FP.f2u_eq_of_floor_eq (FP.floor_rn_div h _ _ hX (by norm_num)) (by omega)

/-- before truncation the scaled output is within a relative 2^-51 of `s'·maxv/P`, whatever the two factors -/
theorem scaled_near (rn : ℚ → ℚ) (h : RN53 rn) (s' maxv : ℕ) (hs : s' < 2 ^ 53) :
    |rn (rn (rn ((s' : ℕ) : ℚ) * rn ((maxv : ℕ) : ℚ)) / ((2147483647 : ℤ) : ℚ)) - (s' : ℚ) * maxv / 2147483647| ≤
      (s' : ℚ) * maxv / 2147483647 / 2 ^ 51 := by
  rw [FP.rn_nat h s' hs, Int.cast_ofNat]
  have hB : |(s' : ℚ) * maxv / 2147483647| ≤ (s' : ℚ) * maxv / 2147483647 := (abs_of_nonneg (by positivity)).le
  refine FP.rn_chain h (x₁ := maxv) (y₂ := s' * rn maxv) (x₂ := s' * maxv) (c₂ := s') (c₃ := 2147483647⁻¹) (by ring) (by ring) ?_ ?_ hB
  · rwa [mul_comm (maxv : ℚ), ← div_eq_mul_inv]
  · rwa [← div_eq_mul_inv]

/-- The scaled output is always below maxv: (1 − 1/P)(1 + 2^-51) < 1. -/
theorem scaled_lt (rn : ℚ → ℚ) (h : RN53 rn) (s' maxv : ℕ) (hs : s' ≤ 2147483646) (hm1 : 1 ≤ maxv)
    (hm : maxv < 2 ^ 63) :
    CSem.f2u 64 (rn (rn (rn ((s' : ℕ) : ℚ) * rn ((maxv : ℕ) : ℚ)) / ((2147483647 : ℤ) : ℚ))) < maxv := by
  have e := abs_le.mp (scaled_near rn h s' maxv (by omega))
  have hM : (0 : ℚ) < (maxv : ℚ) := by exact_mod_cast hm1
  have hsm : (s' : ℚ) * maxv ≤ 2147483646 * maxv := mul_le_mul_of_nonneg_right (by exact_mod_cast hs) hM.le
  have hx0 : (0 : ℚ) ≤ (s' : ℚ) * maxv := by positivity
  generalize (s' : ℚ) * maxv = x at *
  exact FP.f2u_lt_of_lt (by linarith only [e.1, hx0]) (by linarith only [e.2, hsm, hM]) (by omega)

/-- n steps of the specification -/
def pmIter : ℕ → ℕ → ℕ
  | 0, s => s
  | n+1, s => pmIter n (pm s)

/-- n steps of the generated code (the state component; the output is discarded) -/
def genIter (rn : ℚ → ℚ) : ℕ → ℕ → ℕ
  | 0, s => s
  | n+1, s => genIter rn n (of_rfc5170_rand rn s 2147483647).1

theorem genIter_eq (rn : ℚ → ℚ) (n s : ℕ) (h1 : 1 ≤ s) (h2 : s ≤ 2147483646) :
    genIter rn n s = pmIter n s := by
  induction n generalizing s with
  | zero => rfl
  | succ n ih =>
    have := pm_range s h1 h2
    simp only [genIter, pmIter, step_ok rn s _ h1 h2]
    exact ih (pm s) this.1 this.2

/-- closed form of the state sequence -/
theorem pmIter_succ (j : ℕ) : ∀ s, pmIter (j + 1) s = 16807 ^ j * pm s % 2147483647 := by
  induction j with
  | zero => intro s; rw [pow_zero, one_mul]; exact (Nat.mod_mod _ _).symm
  | succ j ih =>
    intro s
    show pmIter (j + 1) (pm s) = _
    rw [ih (pm s)]
    show 16807 ^ j * (16807 * pm s % 2147483647) % 2147483647 = 16807 ^ (j + 1) * pm s % 2147483647
    rw [Nat.mul_mod, Nat.mod_mod, ← Nat.mul_mod, pow_succ, mul_assoc]

/-- evaluated on the closed form, 16807^9999 · 16807 mod P: a few big-number operations for the kernel, where unfolding `pmIter`
takes 10000 steps -/
theorem pm_10000 : pmIter 10000 1 = 1043618065 := by
  rw [pmIter_succ]
  decide +kernel

/-- a state whose scaled output is `v`: the least s' with (4v+1)·P ≤ 4·m·s', so that s'·m/P lies in [v + 1/4, v + 3/4) -/
def target (m v : ℕ) : ℕ := ((4 * v + 1) * 2147483647 + 4 * m - 1) / (4 * m)

theorem target_spec (m v : ℕ) (hm1 : 1 ≤ m) (hm : m < 2 ^ 30) (hv : v < m) :
    1 ≤ target m v ∧ target m v ≤ 2147483646 ∧
    (4 * v + 1) * 2147483647 ≤ 4 * (target m v * m) ∧ 4 * (target m v * m) < (4 * v + 3) * 2147483647 := by
  obtain ⟨hlo, hhi⟩ := FP.cdiv_bounds ((4 * v + 1) * 2147483647) (4 * m) (by omega)
  unfold target
  generalize ((4 * v + 1) * 2147483647 + 4 * m - 1) / (4 * m) = q at hlo hhi ⊢
  rw [show 4 * (q * m) = 4 * m * q by ring]
  -- `omega` exceeds the recursion depth on `(4 * v + 1) * 2147483647`, not on `2147483647 * (4 * v + 1)`
  simp only [Nat.mul_comm _ 2147483647] at hlo hhi ⊢
  refine ⟨?_, ?_, hlo, by omega⟩
  · exact Nat.pos_of_ne_zero fun h0 => by rw [h0] at hlo; omega
  · -- 4 m q < (4 v + 1) P + 4 m ≤ (4 m − 3) P + 4 m < 4 m P
    by_contra hcon
    have : 4 * m * 2147483647 ≤ 4 * m * q := Nat.mul_le_mul_left _ (by omega)
    omega

/-- **every value is produced by some state**: the scaled output of the state `target m v` is `v`, for every bound below 2^30 and every
rounding operator of the binary64 standard model (the product may well exceed 2^53: the quotient is kept a quarter away from the
integers, far more than the roundings can move it) -/
theorem scaled_hit (rn : ℚ → ℚ) (h : RN53 rn) (m v : ℕ) (hm1 : 1 ≤ m) (hm : m < 2 ^ 30) (hv : v < m) :
    CSem.f2u 64 (rn (rn (rn (((target m v : ℕ)) : ℚ) * rn ((m : ℕ) : ℚ)) / ((2147483647 : ℤ) : ℚ))) = v := by
  obtain ⟨ht1, ht2, hlo, hhi⟩ := target_spec m v hm1 hm hv
  have e := abs_le.mp (scaled_near rn h (target m v) m (by omega))
  -- the exact quotient lies in [v + 1/4, v + 3/4) and is below 2^30, so it is moved by less than 2^-21
  have hloq : ((4 * v + 1 : ℕ) : ℚ) * 2147483647 ≤ 4 * ((target m v : ℚ) * m) := by exact_mod_cast hlo
  have hhiq : 4 * ((target m v : ℚ) * m) < ((4 * v + 3 : ℕ) : ℚ) * 2147483647 := by exact_mod_cast hhi
  have hvq : (v : ℚ) ≤ 1073741824 := by exact_mod_cast (by omega : v ≤ 1073741824)
  generalize (target m v : ℚ) * m = x at *
  push_cast at hloq hhiq
  exact FP.f2u_eq_of_mem_Ico (by linarith only [e.1, hloq, hhiq, hvq]) (by linarith only [e.2, hhiq, hvq]) (by omega)

end RandProofs

/-- the translated generator keeps its state valid and its output below the bound, for every rounding operator of the binary64
standard model -/
theorem RfcWF.GoodRand.of_RN53 {rn : ℚ → ℚ} (h : RN53 rn) : RfcWF.GoodRand rn := fun s maxv h1 h2 hm1 hm => by
  rw [RandProofs.out_eq, RandProofs.step_ok rn s maxv h1 h2]
  exact ⟨RandProofs.scaled_lt rn h _ maxv (RandProofs.pm_range s h1 h2).2 hm1 hm, RandProofs.pm_range s h1 h2⟩
