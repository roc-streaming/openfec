import OpenFecVerif.Proofs.ITInd
import OpenFecVerif.Proofs.ITAbs
/-!
Refinement: the executable, value-level iterative decoder `IT.decode` (total maps, symbol values,
partial sums) projects onto the value-free control model `ITAbs.decode` under the abstraction
`abs` (known = "has a value", armed = "has a partial sum").  Hence every theorem about which symbols
end up known transfers from `ITAbs` to the executable model.
-/
namespace ITRefine
open IT

variable {σ : Type}

def abs (s : IT.St σ) : ITAbs.St :=
  { m := s.m, k := s.k, rows := s.rows.get, known := s.known,
    armed := fun r => (s.cterm.get r).isSome, nbu := s.nbu.get }

theorem abs_complete (s : IT.St σ) : (abs s).complete = s.complete := rfl

/-- step 2 on one equation: the value-level computation projects onto the control model -/
theorem rowStep_abs (O : Ops σ) (sym : Nat → Option σ) (esi : Nat) (v : σ) (row : List Nat) (ct : Option σ) (nbu : Nat)
    (hk : (sym esi).isSome = true) :
    Prod.map id (Prod.map Option.isSome id) (IT.rowStep O sym esi v row ct nbu) =
      ITAbs.rowStep (fun e => (sym e).isSome) esi row ct.isSome nbu := by
  -- `esi` being known, to drop it and then the known entries is to drop the known entries
  have hfil : (row.filter (· != esi)).filter (fun e => (sym e).isNone) = row.filter (fun e => !(sym e).isSome) := by
    rw [List.filter_filter]
    refine List.filter_congr fun e _ => ?_
    by_cases he : e = esi
    · simp [he, hk]
    · cases sym e <;> simp [he]
  unfold IT.rowStep ITAbs.rowStep
  simp only [List.contains_iff_mem, hfil]
  split
  · split
    · rfl
    · rfl
  · rfl

theorem injectRow_abs (O : Ops σ) (s : IT.St σ) (esi : Nat) (v : σ) (r : Nat) (hk : (s.sym.get esi).isSome = true) :
    Prod.map abs id (IT.injectRow O s esi v r) = ITAbs.injectRow (abs s) esi r := by
  have h : ITAbs.rowStep (abs s).known esi ((abs s).rows r) ((abs s).armed r) ((abs s).nbu r) = _ :=
    (rowStep_abs O s.sym.get esi v (s.rows.get r) (s.cterm.get r) (s.nbu.get r) hk).symm
  rw [ITAbs.injectRow, h]
  simp only [abs, IT.injectRow, Prod.map, TMap.get_set_fun, apply_ite Option.isSome, id]
  rfl

theorem inject_abs (O : Ops σ) (s : IT.St σ) (esi : Nat) (v : σ) (hk : (s.sym.get esi).isSome = true) (R : Nat) :
    Prod.map abs id (IT.inject O s esi v R) = ITAbs.inject (abs s) esi R := by
  induction R with
  | zero => rfl
  | succ R ih =>
    rw [ITAbs.inject, ← ih]
    exact (injectRow_abs O (IT.inject O s esi v R).1 esi v R (by rw [inject_sym]; exact hk)) ▸ rfl

theorem decode_zero (O : Ops σ) (s : IT.St σ) (esi : Nat) (v : σ) : IT.decode O 0 s esi v = s := by
  rw [IT.decode]

theorem decode_succ (O : Ops σ) (fuel : Nat) (s : IT.St σ) (esi : Nat) (v : σ) : IT.decode O (fuel+1) s esi v =
    (if s.known esi then s else
      if esi < s.k && ({ s with sym := s.sym.set esi (some v) } : IT.St σ).complete then { s with sym := s.sym.set esi (some v) } else
      IT.drain O fuel (IT.inject O { s with sym := s.sym.set esi (some v) } esi v s.m).1
        (IT.inject O { s with sym := s.sym.set esi (some v) } esi v s.m).2.reverse) := by
  rw [IT.decode]

theorem drain_nil (O : Ops σ) (fuel : Nat) (s : IT.St σ) : IT.drain O fuel s [] = s := by rw [IT.drain]

theorem drain_cons (O : Ops σ) (fuel : Nat) (s : IT.St σ) (r : Nat) (rest : List Nat) : IT.drain O fuel s (r :: rest) =
    (if s.complete then s else
      match s.rows.get r with
      | [e] =>
        IT.drain O fuel (IT.decode O fuel
          (if (s.consume r).known e then s.consume r else { (s.consume r) with decoded := e :: (s.consume r).decoded }) e
          ((s.cterm.get r).getD O.zero)) rest
      | _ => IT.drain O fuel s rest) := by
  rw [IT.drain]
  rfl

theorem abs_mark (s : IT.St σ) (esi : Nat) (v : σ) :
    abs ({ s with sym := s.sym.set esi (some v) } : IT.St σ) = (abs s).mark esi :=
  congrArg (fun k => { abs s with known := k }) (known_store s esi v)

theorem abs_consume (s : IT.St σ) (r : Nat) : abs (s.consume r) = (abs s).consume r := by
  simp only [abs, IT.St.consume, ITAbs.St.consume, TMap.get_set_fun, apply_ite Option.isSome, Option.isSome_none]
  rfl

def PA (O : Ops σ) (fuel : Nat) : Prop := ∀ (s : IT.St σ) esi v, abs (IT.decode O fuel s esi v) = ITAbs.decode fuel (abs s) esi
def PB (O : Ops σ) (fuel : Nat) : Prop := ∀ l (s : IT.St σ), abs (IT.drain O fuel s l) = ITAbs.drain fuel (abs s) l

theorem PB_of_PA (O : Ops σ) (fuel : Nat) (hA : PA O fuel) : PB O fuel := by
  intro l
  induction l with
  | nil => intro s; rw [drain_nil, ITAbs.drain_nil]
  | cons r rest ih =>
    intro s
    rw [drain_cons]
    split
    · rw [ITAbs.drain_complete _ _ _ ‹_›]
    · rename_i hc
      split
      · rename_i e he
        rw [ITAbs.drain_cons_single (s := abs s) he (Bool.eq_false_iff.2 hc), ih, hA]
        congr 2
        split <;> exact abs_consume s r
      · rename_i hne
        rw [ITAbs.drain_cons_skip (s := abs s) hne, abs_complete, if_neg hc, ih]

theorem PA_succ (O : Ops σ) (fuel : Nat) (hB : PB O fuel) : PA O (fuel+1) := by
  intro s esi v
  have hi := inject_abs O { s with sym := s.sym.set esi (some v) } esi v (TMap.get_set_same .. ▸ rfl) s.m
  rw [abs_mark] at hi
  have hcomp : ({ s with sym := s.sym.set esi (some v) } : IT.St σ).complete = ((abs s).mark esi).complete :=
    (abs_complete _).symm.trans (congrArg ITAbs.St.complete (abs_mark s esi v))
  -- `abs` goes through the two tests; then each branch is the abstraction of the corresponding step
  rw [decode_succ, ITAbs.decode_succ, apply_ite abs, apply_ite abs, hB, abs_mark, hcomp]
  exact hi ▸ rfl

theorem PA_all (O : Ops σ) : ∀ fuel, PA O fuel
  | 0 => by intro s esi v; rw [decode_zero, ITAbs.decode_zero]
  | fuel+1 => PA_succ O fuel (PB_of_PA O fuel (PA_all O fuel))

end ITRefine
