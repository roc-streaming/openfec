import OpenFecVerif.Proofs.MLSound
/-!
# `of_finish_decoding` on LDPC-Staircase / 2D sessions: status, completion and callback events

Through `MLSound.ldpcFinish_cases`: the status is OK exactly when decoding is complete afterwards and
FAILURE exactly when it is not; completion never reverts; the events reported (one per decoded source symbol) are exactly the
source symbols that were unknown before the call, each once, and all of them are known afterwards.
-/
namespace LdpcFin
open Api Gauss MLSound

variable {σ : Type}

theorem writeAll_k (it : IT.St σ) (srcs : List (Nat × σ)) : (writeAll it srcs).k = it.k :=
  List.foldlRecOn (motive := fun t : IT.St σ => t.k = it.k) srcs _ rfl fun _ h _ _ => h

theorem writeAll_known (it : IT.St σ) (srcs : List (Nat × σ)) (e : Nat) :
    (writeAll it srcs).known e = true ↔ it.known e = true ∨ e ∈ srcs.map (·.1) := by
  induction srcs generalizing it with
  | nil => simp [writeAll]
  | cons a t ih =>
    rw [show writeAll it (a :: t) = writeAll { it with sym := it.sym.set a.1 (some a.2) } t from rfl, ih]
    simp only [IT.St.known, TMap.get_set, List.map_cons, List.mem_cons]
    by_cases h : e = a.1 <;> simp [h]

/-- the symbols a successful elimination writes: the unknown source symbols, in the order of the unknowns -/
theorem solvedSrcs_fst (p : Params) (it : IT.St σ) {xs : List σ} (hlen : xs.length = (unknowns it.known p.k p.r).length) :
    (solvedSrcs p it xs).map (·.1) = (unknowns it.known p.k p.r).filter (· < p.k) := by
  rw [← List.map_fst_zip (l₂ := xs) (Nat.le_of_eq hlen.symm), List.filter_map]
  rfl

/-- **status truthfulness, monotonicity and the exact set of events** of `of_finish_decoding` on the session model -/
theorem ldpcFinish_truthful (IO : SymIO σ) (s : Session σ) (p : Params) (it : IT.St σ) (hit : s.it = some it) (hk : it.k = p.k) :
    ∃ it', (ldpcFinish IO s p).2.1.it = some it' ∧
      ((ldpcFinish IO s p).1 = Status.ok ↔ it'.complete = true) ∧
      ((ldpcFinish IO s p).1 = Status.failure ↔ it'.complete = false) ∧
      (∀ e, it.known e = true → it'.known e = true) ∧
      -- the callback events: exactly the source symbols that were unknown, each once, and known afterwards
      ((ldpcFinish IO s p).2.2.Nodup ∧ ∀ e, e ∈ (ldpcFinish IO s p).2.2 ↔ (e < p.k ∧ it.known e = false ∧ it'.known e = true)) := by
  obtain ⟨st, s', it', ev, h, -, -, hit', hc⟩ := ldpcFinish_cases IO s p it hit
  rw [h]
  refine ⟨it', hit', ?_⟩
  cases hc with
  | complete hc => simp [hc]
  | refused hc => simp [hc]
  | solved xs _ _ hsolve =>
    have hev := solvedSrcs_fst p it (solve_length _ _ _ xs hsolve)
    have hmem : ∀ e, e ∈ (solvedSrcs p it xs).map (·.1) ↔ e < p.k ∧ it.known e = false := fun e => by
      rw [hev]
      simp only [List.mem_filter, mem_unknowns, decide_eq_true_eq]
      exact ⟨fun ⟨⟨_, h2⟩, h3⟩ => ⟨h3, h2⟩, fun ⟨h1, h2⟩ => ⟨⟨by omega, h2⟩, h1⟩⟩
    have hknown := fun e => (writeAll_known it (solvedSrcs p it xs) e).trans (or_congr_right (hmem e))
    have hcomp : (writeAll it (solvedSrcs p it xs)).complete = true := by
      refine List.all_eq_true.mpr fun i hi => (hknown i).mpr ?_
      rw [writeAll_k, hk, List.mem_range] at hi
      exact (Bool.eq_false_or_eq_true _).imp_right fun h => ⟨hi, h⟩
    refine ⟨by simp [hcomp], by simp [hcomp], fun e he => (hknown e).mpr (.inl he),
      hev ▸ (unknowns_nodup _ p.k p.r).filter _, fun e => ?_⟩
    rw [hmem]
    exact ⟨fun h => ⟨h.1, h.2, (hknown e).mpr (.inr h)⟩, fun h => ⟨h.1, h.2.1⟩⟩

end LdpcFin
