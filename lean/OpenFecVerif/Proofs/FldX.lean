import OpenFecVerif.Proofs.GF8.Model
import OpenFecVerif.Proofs.GF4.Model
/-!
# The table-accelerated field operations of the executable model are the first-principles ones

`Api.fldOf` gives the session model `RS.fld8x` / `RS.fld4x`, whose multiplication, inverse and powers of x are table look-ups (tables
built with `Array.ofFn` from the bit-level functions, or by iterating `xtime`).  On field elements they coincide with `RS.fld8` /
`RS.fld4`, so they are faithful copies of the same fields: `GF8.modelx`, `GF4.modelx`.  Every Reed-Solomon theorem therefore holds
for the operations the executable model actually uses.
-/
open GF

theorem getD_ofFn {α : Type} {n : ℕ} {f : Fin n → α} {d : α} {i : ℕ} (h : i < n) : (Array.ofFn f).getD i d = f ⟨i, h⟩ := by
  simp only [Array.getD_eq_getD_getElem?, Array.getElem?_ofFn, h, dite_true, Option.getD_some]

/-- the table of powers of x as `RS.xpowTab8` / `RS.xpowTab4` build it: push the current power, step with `xtime` -/
theorem xpowTab_eq (m poly : ℕ) : ∀ n, (List.range n).foldl (fun (acc : Array ℕ × ℕ) _ => (acc.1.push acc.2, xtime m poly acc.2)) (#[], 1)
    = (Array.ofFn (n := n) fun i => xpow m poly i, xpow m poly n)
  | 0 => by simp [xpow]
  | n + 1 => by rw [List.range_succ, List.foldl_append, xpowTab_eq m poly n, Array.ofFn_succ]; rfl

namespace GF8

theorem fld8x_mul {a b : ℕ} (ha : a < 256) (hb : b < 256) : RS.fld8x.mul a b = RS.fld8.mul a b := by
  unfold RS.fld8x RS.fld8 Bytes.fmul8 Bytes.mulTab8
  dsimp only
  rw [getD_ofFn (by omega : a * 256 + b < 65536)]
  have h1 : (a * 256 + b) / 256 = a := by omega
  have h2 : (a * 256 + b) % 256 = b := by omega
  simp only [h1, h2, Nat.toUInt8, UInt8.toNat_ofNat', Nat.reducePow, Nat.mod_eq_of_lt (mul8_lt b ha)]

theorem fld8x_inv {a : ℕ} (ha : a < 256) : RS.fld8x.inv a = RS.fld8.inv a := by
  unfold RS.fld8x RS.invTab8
  simp only
  rw [getD_ofFn ha]

theorem fld8x_xpow (i : ℕ) : RS.fld8x.xpow i = xpow 8 poly8 i := by
  unfold RS.fld8x RS.xpowTab8
  dsimp only
  rw [xpowTab_eq, getD_ofFn (Nat.mod_lt _ (by omega))]
  exact prim.xpow_mod i

theorem ptx_lt (i : ℕ) : RS.pt RS.fld8x i < 256 := prim.pt_lt fld8x_xpow i

/-- the accelerated operations are a faithful copy of the same field -/
def modelx : FieldModel GF256 RS.fld8x where
  N := 256
  φ := model.φ
  φ_inj := model.φ_inj
  φ_zero := model.φ_zero
  φ_one := model.φ_one
  φ_xor := model.φ_xor
  φ_mul := by intro a b ha hb; rw [fld8x_mul ha hb]; exact model.φ_mul a b ha hb
  φ_inv := by intro a ha; rw [fld8x_inv ha]; exact model.φ_inv a ha
  xor_lt := model.xor_lt
  mul_lt := by intro a b ha hb; rw [fld8x_mul ha hb]; exact model.mul_lt a b ha hb
  inv_lt := by intro a ha; rw [fld8x_inv ha]; exact model.inv_lt a ha
  one_lt := model.one_lt
  pt_lt := ptx_lt
  pt_inj := fun i j hi hj h => prim.pt_inj fld8x_xpow hi hj h

end GF8

namespace GF4

theorem fld4x_mul {a b : ℕ} (ha : a < 16) (hb : b < 16) : RS.fld4x.mul a b = RS.fld4.mul a b := by
  unfold RS.fld4x RS.fld4 RS.mulTab4
  dsimp only
  rw [getD_ofFn (by omega : a * 16 + b < 256)]
  have h1 : (a * 16 + b) / 16 = a := by omega
  have h2 : (a * 16 + b) % 16 = b := by omega
  simp only [h1, h2]

theorem fld4x_inv {a : ℕ} (ha : a < 16) : RS.fld4x.inv a = RS.fld4.inv a := by
  unfold RS.fld4x RS.invTab4
  simp only
  rw [getD_ofFn ha]

theorem fld4x_xpow (i : ℕ) : RS.fld4x.xpow i = xpow 4 poly4 i := by
  unfold RS.fld4x RS.xpowTab4
  dsimp only
  rw [xpowTab_eq, getD_ofFn (Nat.mod_lt _ (by omega))]
  exact prim.xpow_mod i

theorem ptx_lt (i : ℕ) : RS.pt RS.fld4x i < 16 := prim.pt_lt fld4x_xpow i

/-- the accelerated GF(2^4) operations are a faithful copy of the same field -/
def modelx : FieldModel GF16 RS.fld4x where
  N := 16
  φ := model.φ
  φ_inj := model.φ_inj
  φ_zero := model.φ_zero
  φ_one := model.φ_one
  φ_xor := model.φ_xor
  φ_mul := by intro a b ha hb; rw [fld4x_mul ha hb]; exact model.φ_mul a b ha hb
  φ_inv := by intro a ha; rw [fld4x_inv ha]; exact model.φ_inv a ha
  xor_lt := model.xor_lt
  mul_lt := by intro a b ha hb; rw [fld4x_mul ha hb]; exact model.mul_lt a b ha hb
  inv_lt := by intro a ha; rw [fld4x_inv ha]; exact model.inv_lt a ha
  one_lt := model.one_lt
  pt_lt := ptx_lt
  pt_inj := fun i j hi hj h => prim.pt_inj fld4x_xpow hi hj h

end GF4
