import Mathlib.NumberTheory.LucasPrimality
import Mathlib.Tactic.NormNum.Prime
/-!
P = 2^31 − 1 is prime and 16807 is a primitive root modulo it, both by the Lucas test: 16807^(P−1) = 1 and 16807^((P−1)/q) ≠ 1 for the
prime factors q of P − 1.  The eight modular powers are evaluated by the kernel on square-and-multiply (`powmod`, proved equal to
`^ … %`).  Hence (`orbit`) multiplication by 16807 takes any non-zero residue to any other within P − 1 steps: the Park-Miller
generator visits every valid state.
-/
namespace PrimRoot

def P : ℕ := 2147483647

/-- modular exponentiation by squaring (fuel = number of bits) -/
def powmod (m : ℕ) : ℕ → ℕ → ℕ → ℕ
  | 0, _, _ => 1 % m
  | f+1, b, e => if e = 0 then 1 % m else
      let h := powmod m f (b * b % m) (e / 2)
      if e % 2 = 1 then b * h % m else h

theorem powmod_eq (m : ℕ) : ∀ (f b e : ℕ), e < 2 ^ f → powmod m f b e = b ^ e % m := by
  intro f
  induction f with
  | zero =>
    intro b e he
    rw [Nat.lt_one_iff.mp he, powmod, pow_zero]
  | succ f ih =>
    intro b e he
    rw [powmod]
    split
    · rw [‹e = 0›, pow_zero]
    · -- b ^ e = (b * b) ^ (e / 2) * b ^ (e % 2)
      dsimp only
      rw [ih _ _ (Nat.div_lt_of_lt_mul (by rwa [pow_succ, Nat.mul_comm] at he)), ← Nat.pow_mod, ← pow_two, ← pow_mul]
      split
      · rw [Nat.mul_mod_mod, ← pow_succ', show 2 * (e / 2) + 1 = e by omega]
      · rw [show 2 * (e / 2) = e by omega]

/-- the prime factors of P − 1 -/
def factors : List ℕ := [2, 3, 3, 7, 11, 31, 151, 331]

theorem factors_prod : P - 1 = factors.prod := by decide
theorem factors_prime : ∀ q ∈ factors, q.Prime := by simp only [factors, List.forall_mem_cons]; norm_num

theorem powmod_full : powmod P 31 16807 (P - 1) = 1 := by decide +kernel
theorem powmod_div_ne : ∀ q ∈ factors, powmod P 31 16807 ((P - 1) / q) ≠ 1 := by decide +kernel

theorem pow_eq_powmod (e : ℕ) (he : e < 2 ^ 31) : ((16807 : ZMod P)) ^ e = ((powmod P 31 16807 e : ℕ) : ZMod P) := by
  rw [powmod_eq P 31 16807 e he, ZMod.natCast_mod, Nat.cast_pow, Nat.cast_ofNat]

theorem pow_full : (16807 : ZMod P) ^ (P - 1) = 1 := by
  rw [pow_eq_powmod _ (by decide), powmod_full, Nat.cast_one]

theorem pow_div (q : ℕ) (hq : q.Prime) (hd : q ∣ P - 1) : (16807 : ZMod P) ^ ((P - 1) / q) ≠ 1 := by
  rw [factors_prod] at hd
  obtain ⟨a, ha, hqa⟩ := (Prime.dvd_prod_iff hq.prime).mp hd
  obtain rfl := (Nat.prime_dvd_prime_iff_eq hq (factors_prime a ha)).mp hqa
  have he : (P - 1) / q < 2 ^ 31 := lt_of_le_of_lt (Nat.div_le_self _ _) (by decide)
  have hlt : powmod P 31 16807 ((P - 1) / q) < P := powmod_eq P 31 16807 _ he ▸ Nat.mod_lt _ (by decide)
  rw [pow_eq_powmod _ he]
  -- a residue below P is 1 only if it is 1 as a number
  intro h
  apply powmod_div_ne q ha
  rw [← ZMod.val_natCast_of_lt hlt, h, ZMod.val_one'' (by decide)]

/-- 2^31 − 1 is prime (Lucas test with the witness 16807) -/
theorem P_prime : P.Prime := lucas_primality P 16807 pow_full pow_div

instance : Fact P.Prime := ⟨P_prime⟩

/-- 16807 is a primitive root modulo 2^31 − 1 -/
theorem orderOf_16807 : orderOf (16807 : ZMod P) = P - 1 :=
  orderOf_eq_of_pow_and_pow_div_prime (by decide) pow_full pow_div

/-- an element whose order is that of the group of units generates it -/
theorem exists_pow {g : ZMod P} (hg : orderOf g = P - 1) (c : ZMod P) (hc : c ≠ 0) : ∃ i, i < P - 1 ∧ g ^ i = c := by
  have hg0 : g ≠ 0 := fun h => by rw [h, orderOf_zero] at hg; exact absurd hg (by decide)
  have hog : orderOf (Units.mk0 g hg0) = P - 1 := by
    rw [← hg, ← orderOf_units]; rfl
  have htop : Subgroup.zpowers (Units.mk0 g hg0) = ⊤ := by
    apply Subgroup.eq_top_of_card_eq
    rw [Nat.card_zpowers, hog, Nat.card_eq_fintype_card, ZMod.card_units_eq_totient, Nat.totient_prime P_prime]
  have hmem : Units.mk0 c hc ∈ Subgroup.zpowers (Units.mk0 g hg0) := htop ▸ Subgroup.mem_top _
  obtain ⟨i, hi, hgi⟩ := Finset.mem_image.mp (mem_zpowers_iff_mem_range_orderOf.mp hmem)
  exact ⟨i, hog ▸ Finset.mem_range.mp hi, by simpa using congrArg Units.val hgi⟩

/-- **orbit covering**: from any valid state every valid state is reached within P − 1 multiplications by 16807 -/
theorem orbit (s t : ℕ) (hs1 : 1 ≤ s) (hs2 : s < P) (ht1 : 1 ≤ t) (ht2 : t < P) :
    ∃ i, i < P - 1 ∧ 16807 ^ i * s % P = t := by
  have ne0 : ∀ x : ℕ, 1 ≤ x → x < P → ((x : ℕ) : ZMod P) ≠ 0 := fun x h1 h2 h =>
    Nat.not_dvd_of_pos_of_lt h1 h2 ((ZMod.natCast_eq_zero_iff x P).mp h)
  have hs0 := ne0 s hs1 hs2
  obtain ⟨i, hi, hgi⟩ := exists_pow orderOf_16807 (((t : ℕ) : ZMod P) / ((s : ℕ) : ZMod P)) (div_ne_zero (ne0 t ht1 ht2) hs0)
  refine ⟨i, hi, ?_⟩
  have h1 : (((16807 ^ i * s : ℕ)) : ZMod P) = ((t : ℕ) : ZMod P) := by
    push_cast
    rw [hgi, div_mul_cancel₀ _ hs0]
  rw [ZMod.natCast_eq_natCast_iff'] at h1
  rw [h1, Nat.mod_eq_of_lt ht2]

end PrimRoot
