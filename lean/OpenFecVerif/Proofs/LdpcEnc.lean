import Mathlib.Algebra.BigOperators.Group.Finset.Basic
import Mathlib.Data.List.GetD
import OpenFecVerif.Proofs.RowSum
import OpenFecVerif.Proofs.ListHelper
import OpenFecVerif.Model.Api
/-!
The LDPC-Staircase encoder model `Api.ldpcEncode`, over any lawful symbol operations: each repair symbol is the sum of the other
members of its equation *of the output* (`encode_spec`), hence every parity-check equation sums to zero, for every staircase-shaped
system and every source block.  Then symbols as an elementary abelian 2-group (`grpOps`; the row sums `ITSound.S` over it are
`List.sum`s): the same in those terms, the output is the only such word, and sums over equations against sums over columns
(double counting).
-/
namespace LdpcEnc
open Api Gauss ITSound
variable {σ : Type} {O : Ops σ}

theorem encode_prefix (O : Ops σ) (k : Nat) (H : List (List Nat)) (src : List σ) : src <+: ldpcEncode O k H src :=
  List.foldlRecOn _ _ (List.prefix_refl src) fun _ h _ _ => h.trans (List.prefix_append _ _)

theorem encode_systematic (O : Ops σ) (k : Nat) (H : List (List Nat)) (src : List σ) (e : Nat) (he : e < src.length) (d : σ) :
    (ldpcEncode O k H src).getD e d = src.getD e d := by
  obtain ⟨t, ht⟩ := encode_prefix O k H src
  rw [← ht, List.getD_append _ _ _ _ he]

theorem fold_others (O : Ops σ) (w : Nat → σ) (x : Nat) (row : List Nat) :
    row.foldl (fun acc e => if e == x then acc else O.add acc (w e)) O.zero = S O w (row.filter fun e => e != x) := by
  rw [S, List.foldl_filter]
  congr
  funext acc e
  show _ = if (!(e == x)) = true then _ else _
  cases e == x <;> rfl

/-- each repair symbol of the output is the sum of the other members of its equation, read in the output itself -/
theorem encode_spec {k : Nat} {H : List (List Nat)} (hst : Stair k H) (src : List σ) (hs : src.length = k) (i : Nat)
    (hi : i < H.length) :
    (ldpcEncode O k H src).getD (k + i) O.zero =
      S O (fun e => (ldpcEncode O k H src).getD e O.zero) ((H.getD i []).filter fun e => e != k + i) := by
  -- after t rounds the state has k + t entries and the claim holds of the first t equations
  refine (ListHelper.foldl_range_inv _
    (fun t c => c.length = k + t ∧
      ∀ i, i < t → c.getD (k + i) O.zero = S O (fun e => c.getD e O.zero) ((H.getD i []).filter fun e => e != k + i))
    H.length src ⟨hs, fun _ h => absurd h (Nat.not_lt_zero _)⟩ fun t c ht ⟨hl, h⟩ => ?_).2 i hi
  dsimp only
  rw [fold_others]
  -- below its length the new state reads as the old one …
  have hA : ∀ v e, e < k + t → (c ++ [v]).getD e O.zero = c.getD e O.zero := fun v e he => List.getD_append _ _ _ _ (hl ▸ he)
  refine ⟨by rw [List.length_append, hl]; rfl, fun i hi => ?_⟩
  -- … so it does on the other members of an equation i ≤ t, which are all below k + i (staircase)
  have hle : i ≤ t := Nat.le_of_lt_succ hi
  rw [S_congr O fun e he => hA _ e (Nat.lt_of_lt_of_le (hst.lt_of_mem_filter (Nat.lt_of_le_of_lt hle ht) e he)
    (Nat.add_le_add_left hle k))]
  obtain hlt | rfl := Nat.lt_or_eq_of_le hle
  · rw [hA _ _ (Nat.add_lt_add_left hlt k)]
    exact h i hlt
  · rw [← hl, List.getD_append_right _ _ _ _ (Nat.le_refl _), Nat.sub_self, hl]
    rfl

theorem encode_parity (hO : Lawful O) {k : Nat} {H : List (List Nat)} (hst : Stair k H) (src : List σ) (hs : src.length = k) (i : Nat)
    (hi : i < H.length) : S O (fun e => (ldpcEncode O k H src).getD e O.zero) (H.getD i []) = O.zero := by
  rw [S_remove hO _ (hst.nodup i hi) (hst.own i hi), ← encode_spec hst src hs i hi]
  exact hO.add_self _

theorem encode_parity_mem (hO : Lawful O) {k : Nat} {H : List (List Nat)} (hst : Stair k H) (src : List σ) (hs : src.length = k) :
    ∀ row ∈ H, S O (fun e => (ldpcEncode O k H src).getD e O.zero) row = O.zero :=
  (List.forall_getD_nil_iff H).mp (encode_parity hO hst src hs)

end LdpcEnc

/-- the operations record of a symbol group (binary codes: scaling is the identity) -/
def grpOps (V : Type) [AddCommGroup V] : Ops V := ⟨0, (· + ·), fun _ x => x⟩

section bridge
open Gauss ITSound
variable {V : Type} [AddCommGroup V]

theorem lawful_grpOps (h2 : ∀ v : V, v + v = 0) : Lawful (grpOps V) :=
  ⟨add_assoc, add_comm, add_zero, h2⟩

theorem S_eq_sum (sent : Nat → V) (row : List Nat) : S (grpOps V) sent row = (row.map sent).sum := by
  rw [List.sum_eq_foldl, List.foldl_map]
  rfl

end bridge

namespace LdpcEnc
open Api
variable {V : Type} [AddCommGroup V]

variable (h2 : ∀ v : V, v + v = 0)

include h2 in
/-- every parity-check equation sums to zero over the encoder's output -/
theorem parity (k : ℕ) (H : List (List ℕ)) (hst : Stair k H) (src : List V) (hs : src.length = k) (i : ℕ) (hi : i < H.length) :
    ((H.getD i []).map fun e => (ldpcEncode (grpOps V) k H src).getD e 0).sum = 0 :=
  (S_eq_sum _ _).symm.trans (encode_parity (lawful_grpOps h2) hst src hs i hi)

include h2 in
/-- … and it is the only word that does so and agrees with the source block: the repair symbols are the
unique values that make every parity-check equation sum to zero -/
theorem unique (k : ℕ) (H : List (List ℕ)) (hst : Stair k H) (src : List V) (hs : src.length = k)
    (x : ℕ → V) (hx : ∀ i, i < H.length → ((H.getD i []).map x).sum = 0)
    (hsrc : ∀ j, j < k → x j = (ldpcEncode (grpOps V) k H src).getD j 0) :
    ∀ e, e < k + H.length → x e = (ldpcEncode (grpOps V) k H src).getD e 0 := by
  intro e he
  -- the sum of the two words satisfies every equation and vanishes on the sources
  refine (lawful_grpOps h2).eq_of_add_eq_zero (ITSound.stair_zero (lawful_grpOps h2) hst
    (fun e => x e + (ldpcEncode (grpOps V) k H src).getD e 0) (fun i hi => ?_) (fun j hj => hsrc j hj ▸ h2 _) e he)
  rw [S_eq_sum, List.sum_map_add, hx i hi, parity h2 k H hst src hs i hi]
  exact add_zero 0

end LdpcEnc

namespace Parity
open Finset
variable {V : Type} [AddCommGroup V] (h2 : ∀ v : V, v + v = 0)

theorem row_sum_indicator (n : ℕ) (row : List ℕ) (hnd : row.Nodup) (hlt : ∀ e ∈ row, e < n) (cw : ℕ → V) :
    (row.map cw).sum = ∑ e ∈ range n, if e ∈ row then cw e else 0 := by
  rw [← List.sum_toFinset _ hnd, ← Finset.sum_filter]
  congr 1
  ext e
  simpa using hlt e

/-- double counting: the sum of all equations is Σ_e weight(e) • cw e -/
theorem sum_rows_eq_sum_cols (n : ℕ) (H : List (List ℕ)) (hnd : ∀ row ∈ H, row.Nodup) (hlt : ∀ row ∈ H, ∀ e ∈ row, e < n)
    (cw : ℕ → V) :
    (H.map fun row => (row.map cw).sum).sum = ∑ e ∈ range n, colWeight H e • cw e := by
  induction H with
  | nil => simp [colWeight]
  | cons row t ih =>
    rw [List.map_cons, List.sum_cons, ih (fun r hr => hnd r (List.mem_cons_of_mem _ hr)) fun r hr => hlt r (List.mem_cons_of_mem _ hr),
      row_sum_indicator n row (hnd row List.mem_cons_self) (hlt row List.mem_cons_self) cw, ← Finset.sum_add_distrib]
    -- column by column: the new row adds one to the weight of its members
    refine Finset.sum_congr rfl fun e _ => ?_
    unfold colWeight
    by_cases hc : e ∈ row
    · rw [if_pos hc, List.filter_cons_of_pos (by simpa using hc), List.length_cons, succ_nsmul, add_comm]
    · rw [if_neg hc, List.filter_cons_of_neg (by simpa using hc), zero_add]

include h2 in
theorem last_symbol_zero (n : ℕ) (hn : 0 < n) (H : List (List ℕ)) (hnd : ∀ row ∈ H, row.Nodup)
    (hlt : ∀ row ∈ H, ∀ e ∈ row, e < n) (cw : ℕ → V)
    (hpar : ∀ row ∈ H, (row.map cw).sum = 0)
    (heven : ∀ e, e < n - 1 → colWeight H e % 2 = 0) (hodd : colWeight H (n - 1) % 2 = 1) :
    cw (n - 1) = 0 := by
  obtain ⟨m, rfl⟩ := Nat.exists_eq_succ_of_ne_zero hn.ne'
  have h := sum_rows_eq_sum_cols (m + 1) H hnd hlt cw
  -- on the left every equation is zero; on the right the even multiples vanish and the last column, of odd weight, stays
  have hmod : ∀ (c : ℕ) (v : V), c • v = (c % 2) • v := fun c v => nsmul_eq_mod_nsmul c ((two_nsmul v).trans (h2 v))
  rw [List.sum_eq_zero (List.forall_mem_map.mpr hpar), Finset.sum_range_succ,
    Finset.sum_eq_zero fun e he => by rw [hmod, heven e (Finset.mem_range.mp he), zero_nsmul],
    zero_add, hmod, show colWeight H m % 2 = 1 from hodd, one_nsmul] at h
  exact h.symm

end Parity
