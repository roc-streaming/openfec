import OpenFecVerif.Model.Gauss
import OpenFecVerif.Proofs.RowSum
/-!
The symbol-level solver model `Gauss.solve` (forward elimination with row exchange, then backward substitution) answers with
the one solution of the system, and answers exactly when the coefficient matrix has only the zero kernel vector; for symbols
in any structure where addition is associative, commutative, has a neutral element and every element is its own opposite
(XOR of byte strings is the executable instance).

The model runs the forward phase as a fold over column numbers on the whole list of rows, and backward substitution as a
fold over row numbers.  Here both are given a second form, recursive on the rows still in play (`elimFrom`, `bsFrom`), proved
equal to the model's once (`triangularize_eq`, `backSubst_eq`); every other fact is an induction along `elimFrom`, in which
stage i speaks only of the columns from i on (`r.1.drop i`).
-/
namespace Gauss
variable {σ τ : Type}

/-- left-hand side of an equation at the assignment x: the sum of the x_j with coefficient 1 -/
def dot (O : Ops σ) : List Bool → List σ → σ
  | c :: cs, v :: vs => if c then O.add v (dot O cs vs) else dot O cs vs
  | _, _ => O.zero

def Sat (O : Ops σ) (x : List σ) (r : Row σ) : Prop := dot O r.1 x = r.2

theorem xorBits_cons (x y : Bool) (a b : List Bool) : xorBits (x :: a) (y :: b) = (x != y) :: xorBits a b := rfl

theorem dot_cons_true (O : Ops σ) (cs : List Bool) (v : σ) (vs : List σ) : dot O (true :: cs) (v :: vs) = O.add v (dot O cs vs) := rfl
theorem dot_cons_false (O : Ops σ) (cs : List Bool) (v : σ) (vs : List σ) : dot O (false :: cs) (v :: vs) = dot O cs vs := rfl

theorem dot_cons {O : Ops σ} (h : Lawful O) (c : Bool) (cs : List Bool) (v : σ) (vs : List σ) :
    dot O (c :: cs) (v :: vs) = O.add (if c then v else O.zero) (dot O cs vs) := by
  cases c
  · exact (h.zero_add _).symm
  · rfl

theorem dot_xor {O : Ops σ} (h : Lawful O) : ∀ (a b : List Bool) (x : List σ), a.length = b.length →
    dot O (xorBits a b) x = O.add (dot O a x) (dot O b x)
  | [], [], _, _ => (h.add_zero _).symm
  | [], _ :: _, _, hl => nomatch hl
  | _ :: _, [], _, hl => nomatch hl
  | _ :: _, _ :: _, [], _ => (h.add_zero _).symm
  | ca :: a, cb :: b, v :: vs, hl => by
    rw [xorBits_cons, dot_cons h, dot_cons h, dot_cons h, dot_xor h a b vs (Nat.succ.inj hl), h.add_add_add_comm]
    congr 1
    cases ca <;> cases cb <;> simp [h.add_zero, h.zero_add, h.add_self]

theorem bit_xorBits : ∀ (a b : List Bool) (j : Nat), a.length = b.length → bit (xorBits a b) j = (bit a j != bit b j)
  | [], [], _, _ => rfl
  | [], _ :: _, _, hl => nomatch hl
  | _ :: _, [], _, hl => nomatch hl
  | _ :: _, _ :: _, 0, _ => rfl
  | _ :: a, _ :: b, j + 1, hl => bit_xorBits a b j (Nat.succ.inj hl)

theorem length_xorBits (a b : List Bool) (hl : a.length = b.length) : (xorBits a b).length = a.length := by
  rw [xorBits, List.length_zipWith, hl, Nat.min_self]

theorem perm_cons_set {α : Type} (a : α) : ∀ (t : List α) (k : Nat) (hk : k < t.length), (a :: t).Perm (t[k] :: t.set k a)
  | b :: t, 0, _ => by simpa using List.Perm.swap b a t
  | b :: t, k + 1, hk => by
    have ih := perm_cons_set a t k (by simpa using hk)
    simp only [List.getElem_cons_succ, List.set_cons_succ]
    -- a :: b :: t ~ b :: a :: t ~ b :: t[k] :: t.set k a ~ t[k] :: b :: t.set k a
    exact ((List.Perm.swap b a t).trans (List.Perm.cons b ih)).trans (List.Perm.swap _ _ _)

theorem pivot_cases (i : Nat) (rest : List (Row σ)) :
    (pivot i rest = none ∧ ∀ r ∈ rest, bit r.1 i = false) ∨
    ∃ p below, pivot i rest = some (p :: below) ∧ (p :: below).Perm rest ∧ bit p.1 i = true := by
  unfold pivot
  cases hj : rest.findIdx? (fun r => bit r.1 i) with
  | none => exact .inl ⟨rfl, fun r hr => by simpa using List.findIdx?_eq_none_iff.mp hj r hr⟩
  | some j =>
    obtain ⟨hjlt, hbit, _⟩ := List.findIdx?_eq_some_iff_getElem.mp hj
    cases rest with
    | nil => simp at hjlt
    | cons hd t =>
      simp only [List.getElem?_eq_getElem hjlt, List.head?_cons]
      cases j with
      | zero => exact .inr ⟨hd, t, rfl, .refl _, hbit⟩
      | succ j => exact .inr ⟨_, _, rfl, (perm_cons_set hd t j (by simpa using hjlt)).symm, hbit⟩

/-- what a column step does to a row `r` below the pivot row `p` -/
def reduce (O : Ops σ) (i : Nat) (p r : Row σ) : Row σ := if bit r.1 i then addRow O r p else r

/-- The columns i, …, i+n-1 of the forward phase, run on the rows from position i on (the rows above are finished and the model
never looks at them again); the result lists these rows in echelon order. -/
def elimFrom (O : Ops σ) : Nat → Nat → List (Row σ) → Option (List (Row σ))
  | _, 0, rows => some rows
  | i, n + 1, rows =>
    match pivot i rows with
    | some (p :: below) => (elimFrom O (i + 1) n (below.map (reduce O i p))).map (p :: ·)
    | _ => none

theorem foldl_none (O : Ops σ) (l : List Nat) : l.foldl (fun acc i => acc.bind (elimCol O i)) (none : Option (List (Row σ))) = none := by
  induction l with
  | nil => rfl
  | cons a t ih => simpa using ih

theorem foldl_elimCol (O : Ops σ) : ∀ (n i : Nat) (pre rows : List (Row σ)), pre.length = i →
    (List.range' i n).foldl (fun acc i => acc.bind (elimCol O i)) (some (pre ++ rows)) = (elimFrom O i n rows).map (pre ++ ·)
  | 0, _, _, _, _ => rfl
  | n + 1, i, pre, rows, h => by
    rw [List.range'_succ, List.foldl_cons, Option.bind_some, elimCol, elimFrom, List.drop_left' h, List.take_left' h]
    rcases pivot i rows with _ | _ | ⟨p, below⟩
    · exact foldl_none O _
    · exact foldl_none O _
    · show List.foldl _ (some (pre ++ p :: below.map (reduce O i p))) _ = _
      rw [List.append_cons, foldl_elimCol O n (i + 1) (pre ++ [p]) _ (by simp [h]), Option.map_map]
      congr 1; funext out; simp

theorem triangularize_eq (O : Ops σ) (q : Nat) (rows : List (Row σ)) : triangularize O q rows = elimFrom O 0 q rows := by
  rw [triangularize, List.range_eq_range']
  exact (foldl_elimCol O q 0 [] rows rfl).trans (by simp)

theorem elimFrom_succ (O : Ops σ) (i n : Nat) (rows : List (Row σ)) :
    (elimFrom O i (n + 1) rows = none ∧ ∀ r ∈ rows, bit r.1 i = false) ∨
    ∃ p below, (p :: below).Perm rows ∧ bit p.1 i = true ∧
      elimFrom O i (n + 1) rows = (elimFrom O (i + 1) n (below.map (reduce O i p))).map (p :: ·) := by
  rw [elimFrom]
  rcases pivot_cases i rows with ⟨hp, hz⟩ | ⟨p, below, hp, hperm, hpbit⟩ <;> rw [hp]
  · exact .inl ⟨rfl, hz⟩
  · exact .inr ⟨p, below, hperm, hpbit, rfl⟩

theorem elimFrom_length {O : Ops σ} : ∀ (n i : Nat) (rows out : List (Row σ)), elimFrom O i n rows = some out → n ≤ rows.length
  | 0, _, _, _, _ => Nat.zero_le _
  | n + 1, i, rows, out, h => by
    rcases elimFrom_succ O i n rows with ⟨hn, -⟩ | ⟨p, below, hperm, -, heq⟩
    · rw [hn] at h; cases h
    · obtain ⟨out', hout', -⟩ := Option.map_eq_some_iff.mp (heq ▸ h)
      have ih := elimFrom_length n _ _ _ hout'
      rw [List.length_map] at ih
      rw [← hperm.length_eq, List.length_cons]
      exact Nat.succ_le_succ ih

theorem solve_eq_none_of_lt (O : Ops σ) {q : Nat} {rows : List (Row σ)} (h : rows.length < q) : solve O q rows = none := by
  unfold solve
  cases ht : triangularize O q rows with
  | none => rfl
  | some T => exact absurd (elimFrom_length q 0 rows T (triangularize_eq O q rows ▸ ht)) (Nat.not_le_of_lt h)

/-- Apply `f` to every right-hand side.  The control flow of the solver reads coefficients only, so the forward phase commutes
with `mapRhs f` for additive `f` (`triangularize_map`). -/
def mapRhs (f : σ → τ) (rows : List (Row σ)) : List (Row τ) := rows.map (Prod.map id f)

theorem pivot_map (f : σ → τ) (i : Nat) (rest : List (Row σ)) :
    (pivot i rest).map (mapRhs f) = pivot i (mapRhs f rest) := by
  unfold pivot mapRhs
  rw [List.findIdx?_map]
  show _ = match rest.findIdx? (fun r => bit r.1 i) with | none => none | some j => _
  cases rest.findIdx? (fun r => bit r.1 i) with
  | none => rfl
  | some j =>
    simp only [List.getElem?_map, List.head?_map]
    cases rest[j]? <;> cases rest.head? <;> simp only [Option.map_some, Option.map_none]
    split <;> simp [List.map_set, List.map_tail]

theorem elimFrom_map {O : Ops σ} {O' : Ops τ} {f : σ → τ} (hf : ∀ a b, f (O.add a b) = O'.add (f a) (f b)) :
    ∀ (n i : Nat) (rows : List (Row σ)), (elimFrom O i n rows).map (mapRhs f) = elimFrom O' i n (mapRhs f rows)
  | 0, _, _ => rfl
  | n + 1, i, rows => by
    rw [elimFrom, elimFrom, ← pivot_map]
    rcases pivot i rows with _ | _ | ⟨p, below⟩
    · rfl
    · rfl
    · have hred : mapRhs f (below.map (reduce O i p)) = (mapRhs f below).map (reduce O' i (Prod.map id f p)) := by
        simp only [mapRhs, List.map_map]
        refine List.map_congr_left fun r _ => ?_
        simp only [Function.comp, reduce, Prod.map, id]
        split <;> simp [addRow, hf]
      show Option.map _ (Option.map _ _) = Option.map _ (elimFrom O' (i + 1) n ((mapRhs f below).map _))
      rw [← hred, ← elimFrom_map hf n, Option.map_map, Option.map_map]
      rfl

theorem triangularize_map {O : Ops σ} {O' : Ops τ} {f : σ → τ} (hf : ∀ a b, f (O.add a b) = O'.add (f a) (f b)) (q : Nat)
    (rows : List (Row σ)) : (triangularize O q rows).map (mapRhs f) = triangularize O' q (mapRhs f rows) := by
  rw [triangularize_eq, triangularize_eq, elimFrom_map hf]

theorem isSome_solve_map {O : Ops σ} {O' : Ops τ} {f : σ → τ} (hf : ∀ a b, f (O.add a b) = O'.add (f a) (f b)) (q : Nat)
    (rows : List (Row σ)) : (solve O q rows).isSome = (solve O' q (mapRhs f rows)).isSome := by
  rw [solve, solve, Option.isSome_map, Option.isSome_map, ← triangularize_map hf, Option.isSome_map]

theorem dot_nil_right (O : Ops σ) (cs : List Bool) : dot O cs [] = O.zero := by cases cs <;> rfl

theorem dot_drop_cons (O : Ops σ) (a : σ) (y : List σ) : ∀ (cs : List Bool) (i : Nat),
    dot O (cs.drop i) (a :: y) = if bit cs i then O.add a (dot O (cs.drop (i + 1)) y) else dot O (cs.drop (i + 1)) y
  | [], _ => by simp [bit, dot]
  | _ :: _, 0 => rfl
  | _ :: cs, i + 1 => dot_drop_cons O a y cs i

def Wide (q : Nat) (rows : List (Row σ)) : Prop := ∀ r ∈ rows, r.1.length = q

theorem length_reduce {O : Ops σ} {i q : Nat} {p r : Row σ} (hr : r.1.length = q) (hp : p.1.length = q) : (reduce O i p r).1.length = q := by
  unfold reduce
  split
  · exact (length_xorBits _ _ (hr.trans hp.symm)).trans hr
  · exact hr

/-- A row reduced by `p` has a 0 in column i, and on the unknowns after i it says what `r` says on those from i on, plus
what `p` says if `r` had a 1 in column i. -/
theorem dot_reduce {O : Ops σ} {i q : Nat} {p r : Row σ} (hr : r.1.length = q) (hpq : p.1.length = q) (hp : bit p.1 i = true)
    {O' : Ops τ} (hO' : Lawful O') (a : τ) (y : List τ) :
    dot O' ((reduce O i p r).1.drop (i + 1)) y =
      if bit r.1 i then O'.add (dot O' (r.1.drop i) (a :: y)) (dot O' (p.1.drop i) (a :: y)) else dot O' (r.1.drop i) (a :: y) := by
  unfold reduce
  split
  next hb =>
    -- (a + R) + (a + P) = R + P
    rw [dot_drop_cons, dot_drop_cons, hb, hp, if_pos rfl, if_pos rfl, hO'.add_add_add_comm, hO'.add_self, hO'.zero_add,
      ← dot_xor hO' _ _ _ (by simp [hr, hpq]), xorBits, ← List.drop_zipWith]
    rfl
  next hb =>
    rw [dot_drop_cons, if_neg hb]

/-- backward substitution on the n rows from position i on: the value of unknown i is the right-hand side of the head row
plus that row applied to the values of the unknowns after i (a missing row reads as the model's default row) -/
def bsFrom (O : Ops σ) : Nat → Nat → List (Row σ) → List σ
  | _, 0, _ => []
  | i, n + 1, rows =>
    let r := rows.headD ([], O.zero)
    let xs := bsFrom O (i + 1) n rows.tail
    O.add r.2 (dot O (r.1.drop (i + 1)) xs) :: xs

theorem bsFrom_cons (O : Ops σ) (i n : Nat) (p : Row σ) (rest : List (Row σ)) :
    bsFrom O i (n + 1) (p :: rest) = O.add p.2 (dot O (p.1.drop (i + 1)) (bsFrom O (i + 1) n rest)) :: bsFrom O (i + 1) n rest := rfl

theorem length_bsFrom (O : Ops σ) : ∀ (n i : Nat) (rows : List (Row σ)), (bsFrom O i n rows).length = n
  | 0, _, _ => rfl
  | n + 1, i, rows => congrArg (· + 1) (length_bsFrom O n (i + 1) rows.tail)

/-- the inner loop of the model is `dot` -/
theorem foldl_eq_dot {O : Ops σ} (hO : Lawful O) (cs : List Bool) : ∀ (xs : List σ) (s : Nat) (a : σ),
    (List.range xs.length).foldl (fun acc t => if bit cs (s + t) then O.add acc (xs.getD t O.zero) else acc) a
      = O.add a (dot O (cs.drop s) xs)
  | [], _, _ => by simp [dot_nil_right, hO.add_zero]
  | x :: xs, s, a => by
    have ih := foldl_eq_dot hO cs xs (s + 1)
    simp only [Nat.add_right_comm s 1] at ih
    rw [List.length_cons, List.range_succ_eq_map, List.foldl_cons, List.foldl_map, dot_drop_cons]
    simp only [Nat.succ_eq_add_one, ← Nat.add_assoc, List.getD_cons_succ, ih, Nat.add_zero, List.getD_cons_zero]
    split
    · exact hO.add_assoc _ _ _
    · rfl

theorem foldr_backSubst {O : Ops σ} (hO : Lawful O) (q : Nat) (T : List (Row σ)) : ∀ n i : Nat, i + n = q →
    (List.range' i n).foldr (fun i xs =>
      (List.range (q - i - 1)).foldl (fun acc t => if bit (T.getD i ([], O.zero)).1 (i + 1 + t) then O.add acc (xs.getD t O.zero) else acc)
        (T.getD i ([], O.zero)).2 :: xs) [] = bsFrom O i n (T.drop i)
  | 0, _, _ => rfl
  | n + 1, i, h => by
    rw [List.range'_succ, List.foldr_cons, foldr_backSubst hO q T n (i + 1) (by omega), bsFrom, List.tail_drop,
      List.headD_eq_head?_getD, List.head?_drop, ← List.getD_eq_getElem?_getD]
    have : q - i - 1 = (bsFrom O (i + 1) n (T.drop (i + 1))).length := by rw [length_bsFrom]; omega
    rw [this, foldl_eq_dot hO]

theorem backSubst_eq {O : Ops σ} (hO : Lawful O) (q : Nat) (T : List (Row σ)) : backSubst O q T = bsFrom O 0 q T := by
  rw [backSubst, List.range_eq_range']
  exact foldr_backSubst hO q T q 0 (Nat.zero_add q)

/-- Stage i of the whole computation: an assignment to the unknowns from i on that satisfies, on the columns from i on, the
rows still in play is the vector that backward substitution computes from their echelon form. -/
theorem elimFrom_unique {O : Ops σ} (hO : Lawful O) {q : Nat} : ∀ (n i : Nat) (rows out : List (Row σ)), Wide q rows →
    elimFrom O i n rows = some out → ∀ y : List σ, y.length = n → (∀ r ∈ rows, dot O (r.1.drop i) y = r.2) → y = bsFrom O i n out
  | 0, _, _, _, _, _, _, hy, _ => List.eq_nil_of_length_eq_zero hy
  | n + 1, i, rows, out, hw, h, y, hy, hsat => by
    rcases elimFrom_succ O i n rows with ⟨hn, -⟩ | ⟨p, below, hperm, hpbit, heq⟩
    · rw [hn] at h; cases h
    obtain ⟨out', hout', rfl⟩ := Option.map_eq_some_iff.mp (heq ▸ h)
    obtain ⟨a, y', rfl⟩ := List.exists_cons_of_length_eq_add_one hy
    simp only [Wide, ← hperm.mem_iff, List.forall_mem_cons] at hw hsat
    -- the reduced rows have a 0 in column i, so they are equations on y' alone
    obtain rfl := elimFrom_unique hO n (i + 1) _ out'
      (List.forall_mem_map.mpr fun r hr => length_reduce (hw.2 r hr) hw.1) hout' y' (by simpa using hy)
      (List.forall_mem_map.mpr fun r hr =>
        (dot_reduce (hw.2 r hr) hw.1 hpbit hO a y').trans (by rw [hsat.1, hsat.2 r hr]; unfold reduce; split <;> rfl))
    -- and the pivot row gives a from y'
    have hp := hsat.1
    rw [dot_drop_cons, hpbit, if_pos rfl] at hp
    rw [bsFrom_cons, ← hp, hO.add_cancel]

theorem solve_length (O : Ops σ) (q : Nat) (rows : List (Row σ)) (xs : List σ) (h : solve O q rows = some xs) : xs.length = q := by
  obtain ⟨T, -, rfl⟩ := Option.map_eq_some_iff.mp h
  -- every step of the outer fold of `backSubst` puts one value in front
  have : ∀ (f : Nat → List σ → σ) (l : List Nat), (l.foldr (fun i xs => f i xs :: xs) []).length = l.length := fun f l => by
    induction l with
    | nil => rfl
    | cons i l ih => exact congrArg (· + 1) ih
  exact (this _ _).trans List.length_range

/-- **Uniqueness / soundness.** If the solver answers `xs`, then `xs` has one value per unknown and every assignment that
satisfies all equations of the system IS `xs`: the solver can only return the solution. -/
theorem solve_eq_some {O : Ops σ} (hO : Lawful O) (q : Nat) (rows : List (Row σ)) (hw : Wide q rows)
    (xs : List σ) (h : solve O q rows = some xs) :
    xs.length = q ∧ ∀ x : List σ, x.length = q → (∀ r ∈ rows, Sat O x r) → x = xs := by
  obtain ⟨T, hT, hxs⟩ := Option.map_eq_some_iff.mp h
  refine ⟨solve_length O q rows xs h, ?_⟩
  rw [← hxs, backSubst_eq hO]
  exact elimFrom_unique hO q 0 rows T hw (triangularize_eq O q rows ▸ hT)

/-- … hence on a consistent system (as in decoding, where the transmitted block satisfies every equation) the answer
satisfies every equation, including those that end up below the q-th row, which backward substitution never reads -/
theorem solve_sound {O : Ops σ} (hO : Lawful O) (q : Nat) (rows : List (Row σ)) (hw : Wide q rows) (hlen : q ≤ rows.length)
    (xs : List σ) (h : solve O q rows = some xs) (x : List σ) (hx : x.length = q) (hsat : ∀ r ∈ rows, Sat O x r) :
    xs = x ∧ ∀ r ∈ rows, Sat O xs r := by
  obtain rfl := (solve_eq_some hO q rows hw xs h).2 x hx hsat
  exact ⟨rfl, hsat⟩

def boolOps : Ops Bool := ⟨false, fun a b => a != b, fun _ b => b⟩

theorem boolOps_lawful : Lawful boolOps :=
  ⟨by intro a b c; cases a <;> cases b <;> cases c <;> rfl, by intro a b; cases a <;> cases b <;> rfl,
   by intro a; cases a <;> rfl, by intro a; cases a <;> rfl⟩

def InKernel (rows : List (Row σ)) (v : List Bool) : Prop := ∀ r ∈ rows, dot boolOps r.1 v = false

theorem dot_zeros : ∀ (cs : List Bool) (n : Nat), dot boolOps cs (List.replicate n false) = false
  | [], _ => rfl
  | _ :: _, 0 => rfl
  | false :: cs, n + 1 => dot_zeros cs n
  | true :: cs, n + 1 => by rw [List.replicate_succ, dot_cons_true, dot_zeros cs n]; rfl

/-- Stage i of a failing forward phase: the rows still in play have, on the columns from i on, a common non-zero kernel vector.
Where the pivot search fails it is the unit vector; a successful step prepends the value that makes the pivot row vanish. -/
theorem elimFrom_none_kernel (O : Ops σ) {q : Nat} : ∀ (n i : Nat) (rows : List (Row σ)), Wide q rows → elimFrom O i n rows = none →
    ∃ w : List Bool, w.length = n ∧ w ≠ List.replicate n false ∧ ∀ r ∈ rows, dot boolOps (r.1.drop i) w = false
  | 0, _, _, _, h => nomatch h
  | n + 1, i, rows, hw, h => by
    rcases elimFrom_succ O i n rows with ⟨-, hz⟩ | ⟨p, below, hperm, hpbit, heq⟩
    · refine ⟨true :: List.replicate n false, by simp, by simp [List.replicate_succ], fun r hr => ?_⟩
      rw [dot_drop_cons, hz r hr]
      exact dot_zeros _ n
    simp only [Wide, ← hperm.mem_iff, List.forall_mem_cons] at hw ⊢
    obtain ⟨w, hlen, hne, hker⟩ := elimFrom_none_kernel O (q := q) n (i + 1) (below.map (reduce O i p))
      (List.forall_mem_map.mpr fun r hr => length_reduce (hw.2 r hr) hw.1) (Option.map_eq_none_iff.mp (heq ▸ h))
    have hp : dot boolOps (p.1.drop i) (dot boolOps (p.1.drop (i + 1)) w :: w) = false := by
      rw [dot_drop_cons, hpbit]
      exact boolOps_lawful.add_self _
    refine ⟨dot boolOps (p.1.drop (i + 1)) w :: w, by simp [hlen], fun e => hne (List.cons.inj e).2, hp, fun r hr => ?_⟩
    have := dot_reduce (O := O) (hw.2 r hr) hw.1 hpbit boolOps_lawful (dot boolOps (p.1.drop (i + 1)) w) w
    rw [hker _ (List.mem_map_of_mem hr), hp] at this
    split at this
    · exact (Bool.bne_false _).symm.trans this.symm
    · exact this.symm

/-- **Failure means rank deficiency.** If the forward phase finds no pivot in some column, there is a non-zero vector in the
kernel of the coefficient matrix: the unknowns are not uniquely determined by the equations. -/
theorem fail_kernel (O : Ops σ) (q : Nat) (rows : List (Row σ)) (hw : Wide q rows) (hfail : triangularize O q rows = none) :
    ∃ v : List Bool, v.length = q ∧ v ≠ List.replicate q false ∧ InKernel rows v :=
  elimFrom_none_kernel O q 0 rows hw (triangularize_eq O q rows ▸ hfail)

theorem solve_eq_none_kernel (O : Ops σ) (q : Nat) (rows : List (Row σ)) (hw : Wide q rows) (h : solve O q rows = none) :
    ∃ v : List Bool, v.length = q ∧ v ≠ List.replicate q false ∧ InKernel rows v :=
  fail_kernel O q rows hw (Option.map_eq_none_iff.mp h)

/-- **ML-completeness**, for any number of equations: the solver succeeds exactly when only the zero vector is in the kernel -/
theorem solve_isSome_iff (O : Ops σ) (q : Nat) (rows : List (Row σ)) (hw : Wide q rows) :
    (solve O q rows).isSome = true ↔ ∀ v : List Bool, v.length = q → InKernel rows v → v = List.replicate q false := by
  constructor
  · intro hs v hv hk
    -- the homogeneous Boolean system is solved too; its solutions are the kernel vectors, and the zero vector is one
    rw [isSome_solve_map (O' := boolOps) (f := fun _ => false) (fun _ _ => rfl)] at hs
    obtain ⟨xs, hxs⟩ := Option.isSome_iff_exists.mp hs
    have hu : ∀ v, v.length = q → InKernel rows v → v = xs := fun v hv hk =>
      (solve_eq_some boolOps_lawful q (mapRhs (fun _ => false) rows) (List.forall_mem_map.mpr hw) xs hxs).2 v hv
        (List.forall_mem_map.mpr hk)
    rw [hu v hv hk, ← hu (List.replicate q false) List.length_replicate (fun r _ => dot_zeros r.1 q)]
  · intro hall
    cases hs : solve O q rows with
    | some xs => rfl
    | none =>
      obtain ⟨v, hv, hne, hker⟩ := solve_eq_none_kernel O q rows hw hs
      exact absurd (hall v hv hker) hne

end Gauss
